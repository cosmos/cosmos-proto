/-
  Pulsar.Entry — the entry points the properties are stated at: `proto.Marshal`, `proto.Size`,
  `proto.Unmarshal` on a generated message = protobuf-go's wrapper (v1.34.0 `proto/encode.go`,
  `proto/decode.go`, `proto/checkinit.go`) around the generated closures; and the reference decoder.
-/
import Pulsar.Decode
namespace Pulsar

/-! ## `checkInitialized` walk (reflection `Range` over message-typed fields, recursively)

  Since the nil-receiver fix (known-findings: C09, c454db6) `Range` on a nil message visits nothing, so
  a nil element no longer makes the walk panic, and since fix 424cbe1 a typed-nil oneof wrapper is
  skipped as well: the walk can no longer panic (`walkPanics_eq_false` in Proofs/Walk). -/

def nilRangePanics (_S : Schema) (_i : Nat) : Bool := false

mutual
/-- does `checkInitialized(v)` (v a message value of type `i`) panic? -/
def walkPanics (S : Schema) : Nat → Nat → Val → Bool
  | 0, _, _ => false
  | fuel+1, i, v =>
    if v.isNone then nilRangePanics S i
    else walkFields S fuel ((S.msg i).fields.zip v.slots)
def walkFields (S : Schema) : Nat → List (FieldDesc × Val) → Bool
  | _, [] => false
  | fuel, (f, v) :: rest =>
    (match f.shape, f.elem, v with
     | _, _, .oneNil => false                                    -- `case *W: if o == nil { break }` (fix 424cbe1)
     | .singular, .message i, v => !v.isNone && walkPanics S fuel i v
     | .oneof _, .message i, .one x => walkPanics S fuel i x
     | .repeated _, .message i, v => v.elems.any (fun x => walkPanics S fuel i x)
     | .map _, .message i, v => v.elems.any (fun en => walkPanics S fuel i en.value)
     | _, _, _ => false) || walkFields S fuel rest
end

/-! ## `proto.Size`, `proto.Marshal` -/

/-- `proto.MarshalOptions{Deterministic: det}.Marshal(v)` for a generated message: Size, closure,
    then the `checkInitialized` walk (top level only; nested calls set AllowPartial). -/
def implMarshal (S : Schema) (o : MOpts) (fuel : Nat) (i : Nat) (v : Val) : Res Bytes :=
  match implMarshalClosure S o fuel i v with
  | .ok bs => if walkPanics S fuel i v then .panic else .ok bs
  | .err e => .err e
  | .panic => .panic

/-- `MarshalAppend(prefix, v)`: the closure appends `dAtA` to the given buffer. -/
def implMarshalAppend (S : Schema) (o : MOpts) (fuel : Nat) (i : Nat) (pre : Bytes) (v : Val) : Res Bytes :=
  match implMarshal S o fuel i v with
  | .ok bs => .ok (pre ++ bs)
  | .err e => .err e
  | .panic => .panic

/-! ## `proto.Unmarshal` -/

/-- `proto.UnmarshalOptions{Merge, DiscardUnknown}.Unmarshal(bs, m0)`: Reset unless Merge, closure,
    then `checkInitialized` — skipped when DiscardUnknown is set, because the closure echoes
    `input.Flags` as output flags and input bit 0 (DiscardUnknown) is output bit 0 (Initialized). -/
def implUnmarshal (S : Schema) (o : UOpts) (i : Nat) (m0 : Val) (bs : Bytes) : Res Val :=
  -- without Merge the generated `Reset()` (`*x = T{}`) dereferences the target: nil ⇒ panic
  if !o.merge && m0.isNone then .panic else
  let start := if o.merge then m0 else emptyMsg S i
  match implUnmarshalClosure S o (bs.length + 1) 10000 i start bs with
  | .ok v => if !o.discard && walkPanics S (bs.length + 2) i v then .panic else .ok v
  | .err e => .err e
  | .panic => .panic

/-! ## Reference decoder (`unmarshalMessageSlow`) -/

/-- reference scalar read (`unmarshalScalar`): strict varints, UTF-8 enforced for proto3 strings. -/
def specReadScalar (k : Kind) (rest : Bytes) : Res (Val × Bytes) :=
  match k with
  | .double | .fixed64 | .sfixed64 =>
    if rest.length < 8 then .err .eof else .ok (.bits (ofLE (rest.take 8)), rest.drop 8)
  | .float | .fixed32 | .sfixed32 =>
    if rest.length < 4 then .err .eof else .ok (.bits (ofLE (rest.take 4)), rest.drop 4)
  | .string | .bytes =>
    (match consumeVarint rest with
     | .ok (n, r) =>
       if n > r.length then .err .eof
       else if k == .string && !utf8Valid (r.take n) then .err .utf8
       else .ok (.blob (k == .bytes) (r.take n), r.drop n)
     | .err e => .err e | .panic => .panic)
  | k =>
    match consumeVarint rest with
    | .ok (v, r) =>
      let n := match k with
        | .int64 | .uint64 => v
        | .bool => if v != 0 then 1 else 0
        | .sint32 => unzigzag32 (v % 4294967296)
        | .sint64 => unzigzag64 v
        | _ => v % 4294967296
      .ok (.bits n, r)
    | .err e => .err e | .panic => .panic

/-- packed payload: elements until the payload is exhausted (`unmarshalList`). -/
def specPackedLoop (k : Kind) : (fuel : Nat) → (payload : Bytes) → (acc : List Val) → Res (List Val)
  | 0, _, acc => .ok acc
  | fuel+1, payload, acc =>
    if payload = [] then .ok acc
    else match specReadScalar k payload with
      | .ok (v, r) => specPackedLoop k fuel r (acc ++ [v])
      | .err e => .err e | .panic => .panic

/-- `unmarshalMap`'s loop over the entry payload. Unknown numbers and mismatching wire types are skipped. -/
def specEntryLoop (strict : Bool) (childDec : Nat → Val → Bytes → Res Val) (kk : Kind) (e : Elem) :
    (fuel : Nat) → (payload : Bytes) → (k v : Val) → Res (Val × Val)
  | 0, _, k, v => .ok (k, v)
  | fuel+1, payload, k, v =>
    if payload = [] then .ok (k, v)
    else match consumeTag payload with
      | .err e => .err e | .panic => .panic
      | .ok (num, wt, r) =>
        if num > 536870911 then .err .illegalTag
        else
          -- `mism`: a key/value record with a wire type other than the declared one
          let skipIt (mism : Bool) : Res (Val × Val) :=
            if strict && mism then .err .wrongWireType else
            match consumeValue (2 * r.length + 2) 10001 num wt r with
            | .ok r' => specEntryLoop strict childDec kk e fuel r' k v
            | .err e => .err e | .panic => .panic
          if num = 1 then
            if wt = kk.specWireType then
              match specReadScalar kk r with
              | .ok (k', r') => specEntryLoop strict childDec kk e fuel r' k' v
              | .err e => .err e | .panic => .panic
            else skipIt true
          else if num = 2 then
            match e with
            | .scalar vk =>
              if wt = vk.specWireType then
                match specReadScalar vk r with
                | .ok (v', r') => specEntryLoop strict childDec kk e fuel r' k v'
                | .err e => .err e | .panic => .panic
              else skipIt true
            | .message i =>
              if wt = 2 then
                match consumeVarint r with
                | .ok (n, r1) =>
                  if n > r1.length then .err .eof
                  else match childDec i v (r1.take n) with       -- merges into the entry's value message
                    | .ok v' => specEntryLoop strict childDec kk e fuel (r1.drop n) k v'
                    | .err e => .err e | .panic => .panic
                | .err e => .err e | .panic => .panic
              else skipIt true
          else skipIt false

/-- One nesting level of the reference decoder, decoding (merging) into `m`. -/
def specDecodeLoop (strict : Bool) (S : Schema) (i : Nat) (o : UOpts) (childDec : Nat → Val → Bytes → Res Val) :
    (fuel : Nat) → (m : Val) → (bs : Bytes) → Res Val
  | 0, m, _ => .ok m
  | fuel+1, m, bs =>
    if bs = [] then .ok m
    else match consumeTag bs with
      | .err e => .err e | .panic => .panic
      | .ok (num, wt, r) =>
        if num > 536870911 then .err .illegalTag
        else
          let fs := (S.msg i).fields
          -- unknown path: also taken for a known number with a mismatching wire type (`errUnknown`)
          let asUnknown (known : Bool) : Res Val :=
            if strict && known then .err .wrongWireType else
            match consumeValue (2 * r.length + 2) 10001 num wt r with
            | .ok r' =>
              let raw := bs.take (bs.length - r'.length)
              let m' := if o.discard then m else Val.msg m.slots (m.unknown ++ raw)
              specDecodeLoop strict S i o childDec fuel m' r'
            | .err e => .err e | .panic => .panic
          match findField fs num with
          | none => asUnknown false
          | some (j, f) =>
            let cur := m.slot j
            match f.shape, f.elem with
            | .singular, .scalar k =>
              if wt = k.specWireType then
                match specReadScalar k r with
                | .ok (v, r') => specDecodeLoop strict S i o childDec fuel (m.setSlot j v) r'
                | .err e => .err e | .panic => .panic
              else asUnknown true
            | .oneof g, .scalar k =>
              if wt = k.specWireType then
                match specReadScalar k r with
                | .ok (v, r') =>
                  specDecodeLoop strict S i o childDec fuel ((Val.msg (clearGroup fs g m.slots) m.unknown).setSlot j (.one v)) r'
                | .err e => .err e | .panic => .panic
              else asUnknown true
            | .singular, .message mi =>
              if wt = 2 then
                match consumeVarint r with
                | .ok (n, r1) =>
                  if n > r1.length then .err .eof
                  else
                    let into := if cur.isNone then emptyMsg S mi else cur
                    match childDec mi into (r1.take n) with
                    | .ok v => specDecodeLoop strict S i o childDec fuel (m.setSlot j v) (r1.drop n)
                    | .err e => .err e | .panic => .panic
                | .err e => .err e | .panic => .panic
              else asUnknown true
            | .oneof g, .message mi =>
              if wt = 2 then
                match consumeVarint r with
                | .ok (n, r1) =>
                  if n > r1.length then .err .eof
                  else
                    -- `m.Mutable(fd)`: the existing message when this member is the active one
                    let into := match cur with | .one x => (if x.isNone then emptyMsg S mi else x) | _ => emptyMsg S mi
                    match childDec mi into (r1.take n) with
                    | .ok v =>
                      specDecodeLoop strict S i o childDec fuel
                        ((Val.msg (clearGroup fs g m.slots) m.unknown).setSlot j (.one v)) (r1.drop n)
                    | .err e => .err e | .panic => .panic
                | .err e => .err e | .panic => .panic
              else asUnknown true
            | .repeated _, .scalar k =>
              if wt = 2 ∧ k.packable then
                match consumeVarint r with
                | .ok (n, r1) =>
                  if n > r1.length then .err .eof
                  else match specPackedLoop k n (r1.take n) [] with
                    | .ok vs =>
                      let nonNil := match cur with | .list nn _ => nn || !vs.isEmpty | _ => !vs.isEmpty
                      specDecodeLoop strict S i o childDec fuel (m.setSlot j (.list nonNil (cur.elems ++ vs))) (r1.drop n)
                    | .err e => .err e | .panic => .panic
                | .err e => .err e | .panic => .panic
              else if wt = k.specWireType then
                match specReadScalar k r with
                | .ok (v, r') => specDecodeLoop strict S i o childDec fuel (m.setSlot j (.list true (cur.elems ++ [v]))) r'
                | .err e => .err e | .panic => .panic
              else asUnknown true
            | .repeated _, .message mi =>
              if wt = 2 then
                match consumeVarint r with
                | .ok (n, r1) =>
                  if n > r1.length then .err .eof
                  else match childDec mi (emptyMsg S mi) (r1.take n) with
                    | .ok v => specDecodeLoop strict S i o childDec fuel (m.setSlot j (.list true (cur.elems ++ [v]))) (r1.drop n)
                    | .err e => .err e | .panic => .panic
                | .err e => .err e | .panic => .panic
              else asUnknown true
            | .map kk, e =>
              if wt = 2 then
                match consumeVarint r with
                | .ok (n, r1) =>
                  if n > r1.length then .err .eof
                  else
                    -- key default, value default (`NewValue()`: an empty message for message values)
                    let v0 := match e with | .message mi => emptyMsg S mi | .scalar k => Elem.zeroVar (.scalar k)
                    match specEntryLoop strict childDec kk e n (r1.take n) (Elem.zeroVar (.scalar kk)) v0 with
                    | .ok (k, v) =>
                      specDecodeLoop strict S i o childDec fuel (m.setSlot j (.map true (mapPut (kbeqOf kk) cur.elems k v))) (r1.drop n)
                    | .err e => .err e | .panic => .panic
                | .err e => .err e | .panic => .panic
              else asUnknown true

/-- reference decode of message type `i` into `into`, with the recursion budget of protobuf-go. -/
def specDecodeInto (strict : Bool) (S : Schema) (o : UOpts) : (fuel : Nat) → (depth : Nat) → Nat → Val → Bytes → Res Val
  | 0, _, _, into, _ => .ok into
  | fuel+1, depth, i, into, bs =>
    if depth = 0 then .err .depth
    else specDecodeLoop strict S i o (specDecodeInto strict S o fuel (depth - 1)) bs.length into bs

/-- `proto.UnmarshalOptions{…}.Unmarshal(bs, m0)` on a reference (dynamicpb) message. -/
def specUnmarshal (S : Schema) (o : UOpts) (i : Nat) (m0 : Val) (bs : Bytes) : Res Val :=
  specDecodeInto false S o (bs.length + 1) 10000 i (if o.merge then m0 else emptyMsg S i) bs

/-- The same decoder, but a known field number carrying a wire type that is neither the declared one
    nor (for repeated scalars) the packed alternative is an error instead of an unknown field, at every
    level and inside map entries. `WellTyped` streams (the domain of C03) are those it accepts. -/
def specUnmarshalStrict (S : Schema) (o : UOpts) (i : Nat) (m0 : Val) (bs : Bytes) : Res Val :=
  specDecodeInto true S o (bs.length + 1) 10000 i (if o.merge then m0 else emptyMsg S i) bs

/-- A byte stream is a well-typed encoding for message type `i`: the reference decoder accepts it
    (records parse, varints valid, strings valid UTF-8, numbers ≤ 2^29−1, depth within the limit) and
    every known field number carries its declared wire type or the packed/unpacked alternative. -/
def WellTyped (S : Schema) (i : Nat) (bs : Bytes) : Prop :=
  (specUnmarshalStrict S {} i (emptyMsg S i) bs).isOk = true

end Pulsar
