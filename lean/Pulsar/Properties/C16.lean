/-
  C16 — anyutil packs and unpacks every message faithfully and never panics.
-/
import Pulsar.Anyutil
namespace Pulsar.Anyutil
open Pulsar

/-- Packing yields the URL "/" ++ full name (no host prefix) and the encoding as value. -/
theorem C16_pack_url_value (dst : AnyVal) (name : String) (b : Bytes) :
    marshalFrom dst (some name) (.ok b) = (.ok ⟨"/" ++ name, b⟩, ⟨"/" ++ name, b⟩) := rfl

/-- A failed pack (nil source, or the encoder failing) leaves the destination untouched. -/
theorem C16_pack_failure_leaves_dst (dst : AnyVal) (src : Option String) (enc : Res Bytes)
    (h : ∀ d, (marshalFrom dst src enc).1 ≠ .ok d) : (marshalFrom dst src enc).2 = dst := by
  unfold marshalFrom at *
  cases src with
  | none => rfl
  | some n =>
    cases enc with
    | ok b => exact absurd rfl (h _)
    | err e => rfl
    | panic => rfl

/-- Unpack never panics, whatever the Any and whatever the resolvers answer, as long as decoding
    itself does not panic (C06). -/
theorem C16_unpack_no_panic {M : Type} (any : AnyVal) (types files : String → Lookup)
    (decode : String → Bytes → Res M) (hd : ∀ n b, decode n b ≠ .panic) :
    (unpack any types files decode).isPanic = false := by
  unfold unpack
  extract_lets finish
  -- the only panic `finish` can pass on is one of `decode`
  have fin : ∀ name dyn, (finish name dyn).isPanic = false := by
    intro name dyn
    simp only [finish]
    split
    · have := hd name any.value
      cases h : decode name any.value <;> simp_all [Res.isPanic]
    · rfl
  cases types any.typeUrl with
  | message name => exact fin name false
  | notFound =>
    cases files (trimSlash any.typeUrl) with
    | message name => exact fin name true
    | nonMessage => rfl
    | notFound => rfl
    | otherErr => rfl
  | nonMessage => rfl
  | otherErr => rfl

/-- `h`: proto full names contain no '/' -/
theorem urlName_pack (n : String) (h : '/' ∉ n.toList) : urlName ("/" ++ n) = n := by
  unfold urlName
  have hl : ("/" ++ n).toList = '/' :: n.toList := by simp [String.toList_append]
  rw [hl, List.reverse_cons]
  have : (n.toList.reverse ++ ['/']).takeWhile (· ≠ '/') = n.toList.reverse := by
    have hall : ∀ c ∈ n.toList.reverse, (decide (c ≠ '/')) = true := by
      intro c hc; simp at hc ⊢; intro hEq; exact h (hEq ▸ hc)
    rw [List.takeWhile_append_of_pos hall]
    simp
  rw [this, List.reverse_reverse]
  simp

theorem trimSlash_pack (n : String) : trimSlash ("/" ++ n) = n := by
  unfold trimSlash
  have hl : ("/" ++ n).toList = '/' :: n.toList := by simp [String.toList_append]
  rw [hl]
  simp

/-- Round trip through the type registry: unpacking a packed message returns that message (given the
    codec round trip, C01) as its registered Go type. -/
theorem C16_roundtrip_types {M : Type} (dst : AnyVal) (name : String) (b : Bytes) (m : M)
    (types files : String → Lookup) (decode : String → Bytes → Res M)
    (hname : '/' ∉ name.toList)
    (hreg : types ("/" ++ name) = .message name) (hrt : decode name b = .ok m) :
    unpack (marshalFrom dst (some name) (.ok b)).2 types files decode = .ok ⟨name, false, m⟩ := by
  simp only [marshalFrom, unpack, hreg, urlName_pack name hname, hrt, if_true]

/-- Round trip through the file registry when the type registry does not know the type: a dynamic
    message of the same type with the same content. -/
theorem C16_roundtrip_files {M : Type} (dst : AnyVal) (name : String) (b : Bytes) (m : M)
    (types files : String → Lookup) (decode : String → Bytes → Res M)
    (hname : '/' ∉ name.toList)
    (hnot : types ("/" ++ name) = .notFound) (hfile : files name = .message name)
    (hrt : decode name b = .ok m) :
    unpack (marshalFrom dst (some name) (.ok b)).2 types files decode = .ok ⟨name, true, m⟩ := by
  simp only [marshalFrom, unpack, hnot, trimSlash_pack, hfile, urlName_pack name hname, hrt, if_true]

/-- The two paths agree on the message. -/
theorem C16_paths_agree {M : Type} (dst : AnyVal) (name : String) (b : Bytes) (m : M)
    (types₁ types₂ files : String → Lookup) (decode : String → Bytes → Res M)
    (hname : '/' ∉ name.toList)
    (h1 : types₁ ("/" ++ name) = .message name)
    (h2 : types₂ ("/" ++ name) = .notFound) (hfile : files name = .message name)
    (hrt : decode name b = .ok m) :
    ∃ u₁ u₂, unpack (marshalFrom dst (some name) (.ok b)).2 types₁ files decode = .ok u₁ ∧
             unpack (marshalFrom dst (some name) (.ok b)).2 types₂ files decode = .ok u₂ ∧
             u₁.msg = u₂.msg ∧ u₁.typeName = u₂.typeName := by
  refine ⟨⟨name, false, m⟩, ⟨name, true, m⟩, ?_, ?_, rfl, rfl⟩
  · exact C16_roundtrip_types dst name b m types₁ files decode hname h1 hrt
  · exact C16_roundtrip_files dst name b m types₂ files decode hname h2 hfile hrt

/-- Unknown, malformed or non-message type URLs are reported as errors. -/
theorem C16_bad_url_is_error {M : Type} (any : AnyVal) (types files : String → Lookup)
    (decode : String → Bytes → Res M)
    (ht : types any.typeUrl = .notFound)
    (hf : files (trimSlash any.typeUrl) ≠ .message (urlName any.typeUrl) ∧
          ∀ n, files (trimSlash any.typeUrl) = .message n → urlName any.typeUrl ≠ n) :
    ∃ e, unpack any types files decode = .err e := by
  unfold unpack
  rw [ht]
  cases hfl : files (trimSlash any.typeUrl) with
  | message n =>
    have := hf.2 n hfl
    simp [this]
  | nonMessage => exact ⟨_, rfl⟩
  | notFound => exact ⟨_, rfl⟩
  | otherErr => exact ⟨_, rfl⟩

-- non-vacuity
example : unpack (M := Nat) ⟨"/Enumeration", []⟩ (fun _ => .notFound) (fun _ => .nonMessage) (fun _ _ => .ok 0)
    = .err .other := rfl
example : urlName "/testpb.A" = "testpb.A" := by decide
example : urlName "type.googleapis.com/testpb.A" = "testpb.A" := by decide

end Pulsar.Anyutil

#print axioms Pulsar.Anyutil.C16_pack_url_value
#print axioms Pulsar.Anyutil.C16_pack_failure_leaves_dst
#print axioms Pulsar.Anyutil.C16_unpack_no_panic
#print axioms Pulsar.Anyutil.C16_roundtrip_types
#print axioms Pulsar.Anyutil.C16_roundtrip_files
#print axioms Pulsar.Anyutil.C16_paths_agree
#print axioms Pulsar.Anyutil.C16_bad_url_is_error
