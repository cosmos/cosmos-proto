/-
  C15 / C06 / C14 (source level) — runtime.Skip as TRANSLATED FROM /repo's runtime/runtime.go on this run
  (`Pulsar.Xf.runtime_Skip`: the outer record loop and the three varint loops as fuel-recursive helpers, Go's
  wrapping `int` / `uint64` arithmetic, slice reads with index panics, the signed `length |= … << shift`):
  it is the hand-written model `skip` outcome for outcome, so everything proved about the model — never a panic,
  progress, exactly the length of the first record protowire accepts — holds of the Go text itself, for every input
  shorter than 2^62 bytes. The fuel the translation gives the loops (`len(dAtA)+1` records, 11 bytes per varint)
  always suffices (`C15_src_Skip_fuel_suffices`: the model never produces the translation's "out of fuel" outcome).
-/
import Pulsar.Proofs.GoSrcSkip
namespace Pulsar

/-- the result of the model as the Go function returns it (`int`) -/
def skipAsInt (bs : Bytes) : Res Int := natRes (skip bs)

theorem C15_src_Skip_is_model (bs : Bytes) (hl : bs.length < 4611686018427387904) :
    Xf.runtime_Skip bs = skipAsInt bs :=
  src_Skip bs hl

/-- the Go text never panics (no slice index out of range, whatever the bytes) -/
theorem C15_src_Skip_no_panic (bs : Bytes) (hl : bs.length < 4611686018427387904) :
    Xf.runtime_Skip bs ≠ .panic := by
  rw [src_Skip bs hl, Ne, natRes_eq_panic]
  exact skip_ne_panic bs

/-- … always makes progress when it succeeds … -/
theorem C15_src_Skip_progress (bs : Bytes) (hl : bs.length < 4611686018427387904) (n : Int)
    (h : Xf.runtime_Skip bs = .ok n) : 0 < n := by
  rw [src_Skip bs hl, natRes_eq_ok] at h
  obtain ⟨m, hm, rfl⟩ := h
  have := skip_progress bs m hm
  omega

/-- … and returns precisely the length of the first record whenever protowire accepts one -/
theorem C15_src_Skip_len (bs : Bytes) (n : Nat) (hl : bs.length < 4611686018427387904)
    (h : consumeField bs = .ok n) : Xf.runtime_Skip bs = .ok (n : Int) := by
  rw [src_Skip bs hl, skip_len_of_consumeField (by omega) h]
  rfl

/-- the loops never run out of the fuel the translation gave them: `.err .other` is not an outcome -/
theorem C15_src_Skip_fuel_suffices (bs : Bytes) (hl : bs.length < 4611686018427387904) :
    Xf.runtime_Skip bs ≠ .err .other := by
  rw [src_Skip bs hl, Ne, natRes_eq_err]
  exact skip_ne_other bs

end Pulsar

#print axioms Pulsar.C15_src_Skip_is_model
#print axioms Pulsar.C15_src_Skip_no_panic
#print axioms Pulsar.C15_src_Skip_len
