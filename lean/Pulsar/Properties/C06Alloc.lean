/-
  C06 (allocation clause) — "unmarshal never allocates memory out of proportion to the input length".

  `Pulsar.DecodeAlloc` is the generated `unmarshal` closure of `Pulsar.Decode` with every allocation site
  of the template accounted (the table is in that file). Proved here, for every schema (well-formed or
  not), every option, recursion budget, fuel, target and byte string: the accounting decoder is the decoder,
  and a run on `n` bytes allocates at most `K * n + K0` bytes (`K = 192`, `K0 = 0`) whether it accepts or
  rejects, so no rejected input and no truncation is a cheap way to make the decoder allocate.

  Why it holds: every allocation is paid for by input bytes consumed in the same record — a packed
  pre-allocation is at most 8 bytes per payload byte and the run consumes its payload; each appended
  element consumes at least one byte; every message, nested call, oneof wrapper and map entry is preceded by
  a tag and a length byte; nested payloads and map entries are disjoint slices of the parent's bytes. The recursion
  budget plays no role: a nesting level costs at least two input bytes.

  The bound fails of cosmos-proto before fix d595428: there the key/value reads of a map entry are bounds-checked
  against the end of the whole input while the parser afterwards jumps back to the end of the entry, so an entry
  of declared length 1 (`0a 01 12 …`) takes its value from the bytes after the entry and the parent decodes
  those bytes again. With a message-valued map in a recursive type this re-reading doubles per 8 bytes of
  input: 1313 bytes make `proto.Unmarshal` allocate 619 MB (×4 for every 32 more bytes).
  `C06_alloc_attack_rejected` replays that input.
-/
import Pulsar.Proofs.DecodeAlloc
import Pulsar.Entry
namespace Pulsar
open Alloc

/-- The accounting decoder is the decoder. -/
theorem C06_alloc_value_agrees (S : Schema) (o : UOpts) (fuel : Nat) (d : Int) (i : Nat) (into : Val) (bs : Bytes) :
    (implUnmarshalAlloc S o fuel d i into bs).2 = implUnmarshalClosure S o fuel d i into bs :=
  (al_closure S o fuel d i into bs).1

/-- Allocation is linear in the input length, whatever the outcome of the run. -/
theorem C06_alloc_linear_any_outcome (S : Schema) (o : UOpts) (fuel : Nat) (d : Int) (i : Nat) (into : Val)
    (bs : Bytes) : (implUnmarshalAlloc S o fuel d i into bs).1 ≤ K * bs.length + K0 := by
  have := (al_closure S o fuel d i into bs).2
  simp only [K0]; omega

/-- Allocation of an accepted input is linear in its length. -/
theorem C06_alloc_linear (S : Schema) (o : UOpts) (fuel : Nat) (d : Int) (i : Nat) (into : Val) (bs : Bytes)
    (v : Val) (a : Nat) (h : implUnmarshalAlloc S o fuel d i into bs = (a, .ok v)) :
    a ≤ K * bs.length + K0 := by
  have := C06_alloc_linear_any_outcome S o fuel d i into bs
  rw [h] at this
  exact this

/-- The same, read off the generated closure: whenever `implUnmarshalClosure` accepts, the accounting run
    of the same call returns the same message and a linear allocation total. -/
theorem C06_alloc_linear_closure (S : Schema) (o : UOpts) (fuel : Nat) (d : Int) (i : Nat) (into : Val)
    (bs : Bytes) (v : Val) (h : implUnmarshalClosure S o fuel d i into bs = .ok v) :
    ∃ a, implUnmarshalAlloc S o fuel d i into bs = (a, .ok v) ∧ a ≤ K * bs.length + K0 := by
  refine ⟨(implUnmarshalAlloc S o fuel d i into bs).1, ?_, C06_alloc_linear_any_outcome S o fuel d i into bs⟩
  rw [← C06_alloc_value_agrees] at h
  rw [← h]

/-- `proto.Unmarshal(bs, m0)`: the allocations of the closure call it makes (`implUnmarshal`: fuel
    `len + 1`, the default budget, a reset or merged target). Not counted, because it is protobuf-go's code
    around the generated closure and not the closure: the one `ProtoMethods()` result of the top-level
    dispatch (48 bytes) and the initialisation walk `checkInitializedSlow` after a successful decode, which
    allocates a constant per message value it visits (measured: about 128 bytes per nested message). -/
def implUnmarshalTopAlloc (S : Schema) (o : UOpts) (i : Nat) (m0 : Val) (bs : Bytes) : Nat :=
  (implUnmarshalAlloc S o (bs.length + 1) 10000 i (if o.merge then m0 else emptyMsg S i) bs).1

theorem C06_alloc_linear_top (S : Schema) (o : UOpts) (i : Nat) (m0 : Val) (bs : Bytes) :
    implUnmarshalTopAlloc S o i m0 bs ≤ K * bs.length + K0 :=
  C06_alloc_linear_any_outcome S o _ _ i _ bs

/-! ### Non-vacuity -/

/-- ```
    message M { repeated int64 xs = 1; M child = 2; map<string, M> mp = 3; string s = 4; }
    ``` -/
def allocSchema : Schema :=
  ⟨[⟨[⟨1, .scalar .int64, .repeated true⟩, ⟨2, .message 0, .singular⟩, ⟨3, .message 0, .map .string⟩,
      ⟨4, .scalar .string, .singular⟩]⟩]⟩

example : allocSchema.WF = true := by decide

/-- 24 bytes: a packed run `xs = [1,2,3]`, a nested message `child {xs = [5,6]}`, a map entry
    `"k" ↦ {}`, `s = "hi"` and an unknown varint record `5: 1`. -/
def allocBytes : Bytes :=
  [0x0a, 0x03, 0x01, 0x02, 0x03,
   0x12, 0x04, 0x0a, 0x02, 0x05, 0x06,
   0x1a, 0x05, 0x0a, 0x01, 0x6b, 0x12, 0x00,
   0x22, 0x02, 0x68, 0x69,
   0x28, 0x01]

/-- accepted, 671 bytes allocated:
    72 (packed run: `make([]int64, 0, 3)` = 24, three appends = 48)
    + 160 (`&M{}` = 64, the nested call = 48, and in the child 16 + 32 for its packed run of two)
    + 433 (`make(map)` = 48, key `"k"` = 1, lazily allocated value `&M{}` = 64, the nested call = 48,
           new bucket = 272)
    + 2 (`"hi"`) + 4 (unknown record appended). -/
theorem C06_alloc_example :
    implUnmarshalAlloc allocSchema {} 25 0 0 (emptyMsg allocSchema 0) allocBytes =
      (671, .ok (.msg
        [.list true [.bits 1, .bits 2, .bits 3],
         .msg [.list true [.bits 5, .bits 6], .none, .map false [], .blob false []] [],
         .map true [.entry (.blob false [0x6b])
           (.msg [.list false [], .none, .map false [], .blob false []] [])],
         .blob false [0x68, 0x69]]
        [0x28, 0x01])) := by rfl

/-- the bound of the theorem for this run: 671 ≤ 192 * 24 -/
example : (671 : Nat) ≤ K * allocBytes.length + K0 :=
  C06_alloc_linear allocSchema {} 25 0 0 _ allocBytes _ 671 C06_alloc_example

/-- a rejected input still has its allocations counted: `0a 02 01 80` pre-allocates one `int64`, appends
    the element `1`, then fails on the truncated varint `80` — 24 bytes were allocated before the error. -/
theorem C06_alloc_example_err :
    implUnmarshalAlloc allocSchema {} 5 0 0 (emptyMsg allocSchema 0) [0x0a, 0x02, 0x01, 0x80] = (24, .err .eof) := by
  rfl

/-- `message M { map<int32, N> f = 1; }  message N {}` -/
def allocMapSchema : Schema := ⟨[⟨[⟨1, .message 1, .map .int32⟩]⟩, ⟨[]⟩]⟩

/-- `K` is attained: `0a 00` allocates the map, a bucket and an empty message value, `384 = K * 2`. -/
theorem C06_alloc_K_attained :
    (implUnmarshalAlloc allocMapSchema {} 3 0 0 (emptyMsg allocMapSchema 0) [0x0a, 0x00]).1 = K * 2 + K0 := by
  decide

/-- `message M { map<int32, M> f = 1; }` — the recursive message-valued map of the pre-fix attack -/
def allocRecMapSchema : Schema := ⟨[⟨[⟨1, .message 0, .map .int32⟩]⟩]⟩

/-- The input that doubled the pre-fix decoder's work per level (three levels shown: each `0a 01 12`
    declares a one-byte entry holding only the value tag, the value's length prefix `25`/`1d`/`15` and its
    payload lay *after* the entry). Since fix d595428 the value record must end inside the entry: rejected
    after allocating only the map header. -/
theorem C06_alloc_attack_rejected :
    implUnmarshalAlloc allocRecMapSchema {} 42 0 0 (emptyMsg allocRecMapSchema 0)
      [0x0a, 0x01, 0x12, 0x25, 0x10, 0x00, 0x10, 0x00,
       0x0a, 0x01, 0x12, 0x1d, 0x10, 0x00, 0x10, 0x00,
       0x0a, 0x01, 0x12, 0x15, 0x10, 0x00, 0x10, 0x00,
       0x12, 0x0f, 0, 0, 0, 0, 0, 0, 0, 0, 0, 0, 0, 0, 0, 0, 0] = (48, .err .eof) := by
  rfl

#print axioms C06_alloc_value_agrees
#print axioms C06_alloc_linear_any_outcome
#print axioms C06_alloc_linear
#print axioms C06_alloc_linear_closure
#print axioms C06_alloc_linear_top
#print axioms C06_alloc_example
#print axioms C06_alloc_example_err
#print axioms C06_alloc_K_attained
#print axioms C06_alloc_attack_rejected

end Pulsar
