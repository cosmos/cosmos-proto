/-
  C06 (source level) — runtime.nestedRecursionLimit as TRANSLATED FROM /repo's runtime/runtime.go on this run
  (`Pulsar.Xf.runtime_nestedRecursionLimit`): the recursion budget handed to nested decodes is the model's
  `nestedLimit`, strictly decreasing, and an exhausted budget is negative (never 0, which proto.UnmarshalOptions
  would read as "default").
-/
import Pulsar.Proofs.GoSrcLimit
namespace Pulsar

theorem C06_src_nestedRecursionLimit_is_model (d : Int)
    (hd : -9223372036854775808 ≤ d ∧ d ≤ 9223372036854775807) :
    Xf.runtime_nestedRecursionLimit d = .ok (nestedLimit d) :=
  src_nestedRecursionLimit d hd

/-- the budget strictly decreases along a nesting chain and never becomes the "unset" value 0 -/
theorem C06_src_budget_decreases (d : Int) (hd : 0 < d ∧ d ≤ 9223372036854775807) :
    ∃ r, Xf.runtime_nestedRecursionLimit d = .ok r ∧ r < d ∧ r ≠ 0 :=
  ⟨nestedLimit d, src_nestedRecursionLimit d ⟨by omega, hd.2⟩, nestedLimit_lt hd.1⟩

/-- an unset budget (0) is the protobuf-go default -/
theorem C06_src_budget_default : Xf.runtime_nestedRecursionLimit 0 = .ok 9999 := by
  rw [src_nestedRecursionLimit 0 (by decide)]; decide

end Pulsar

#print axioms Pulsar.C06_src_nestedRecursionLimit_is_model
#print axioms Pulsar.C06_src_budget_decreases
