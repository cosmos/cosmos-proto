/-
  C09 — a nil generated message is a safe, empty, read-only message: every read returns what it returns
  on the empty message and does not panic; every write panics and leaves it nil; Size is 0 and Marshal
  gives no bytes. (IMPL machine `Reflect.step`; `.none` is the nil receiver `(*T)(nil)`.)
-/
import Pulsar.Proofs.ReflectCor
import Pulsar.Proofs.EncodeEmpty
namespace Pulsar

/-- Reads on nil, at any path (`in`/`at`/`mv` prefixes included): the state stays nil and the output is the
    one the same op gives on the freshly allocated empty message. `IsValid` is the one observable
    difference (`f` on nil, `t` on `&T{}`), and is excluded. -/
theorem C09_nil_reads (S : Schema) (i : Nat) (op : Op) (hr : op.isWrite = false) (hv : op ≠ .r .valid) :
    Reflect.step S i .none op = (.none, (Reflect.step S i (emptyMsg S i) op).2) := by
  simp only [Reflect.step, hr, Bool.false_eq_true, if_false, Prod.mk.injEq, true_and]
  cases op with
  | r o =>
    by_cases hc : o.usesCodec = true
    · cases o <;> simp only [ROp.usesCodec, reduceCtorEq] at hc
      · simp only [Reflect.stepR, Reflect.read, depth_emptyMsg]
        rw [implSize_emptyMsg S Reflect.mopts rfl 1 i, PU.implSize_none S _ _ i .none rfl]
      · simp only [Reflect.stepR, Reflect.read, depth_emptyMsg]
        rw [implMarshal_emptyMsg S Reflect.mopts rfl 1 i, implMarshal_none]
    · exact read_none S i o (fun h => hv (by rw [h])) (by simpa using hc)
  | w o => simp [Op.isWrite] at hr
  | «in» j op => simp only [Reflect.stepR, Val.isNone, emptyMsg, if_true, Bool.false_eq_true, if_false]
  | «at» j k op => simp only [Reflect.stepR, Val.isNone, emptyMsg, if_true, Bool.false_eq_true, if_false]
  | mv j k op => simp only [Reflect.stepR, Val.isNone, emptyMsg, if_true, Bool.false_eq_true, if_false]

/-- root-level reads that are addressed to an existing field of the right shape (`lget` has no valid
    index on an empty list, so it is not in the domain: `List.Get` out of range panics by contract) -/
def ROp.addressed (fs : List FieldDesc) : ROp → Bool
  | .has j | .get j | .newf j | .getter j => decide (j < fs.length)
  | .which g => fs.any (fun f => f.group? == some g)
  | .llen j => (match fs[j]? with | some f => (match f.shape with | .repeated _ => true | _ => false) | none => false)
  | .lget _ _ => false
  | .mlen j | .mhas j _ | .mget j _ | .mrange j =>
    (match fs[j]? with | some f => (match f.shape with | .map _ => true | _ => false) | none => false)
  | _ => true

/-- … and in particular they do not panic. -/
theorem C09_nil_reads_no_panic (S : Schema) (i : Nat) (o : ROp) (ha : o.addressed (S.msg i).fields = true) :
    (Reflect.step S i .none (.r o)).2 ≠ .panic ∧ (Reflect.step S i .none (.r o)).2 ≠ .enc .panic := by
  simp only [Reflect.step, Op.isWrite, Bool.false_eq_true, if_false, Reflect.stepR]
  have field : ∀ j, j < (S.msg i).fields.length → ∃ f, (S.msg i).fields[j]? = some f :=
    fun j h => ⟨_, List.getElem?_eq_getElem h⟩
  cases o <;> simp only [ROp.addressed, decide_eq_true_eq, reduceCtorEq] at ha
  case has j =>
    obtain ⟨f, hf⟩ := field j ha
    simp [Reflect.read, hf]
  case get j =>
    obtain ⟨f, hf⟩ := field j ha
    simp only [Reflect.read, hf]
    exact getF_ne_panic _ _
  case newf j =>
    obtain ⟨f, hf⟩ := field j ha
    simp only [Reflect.read, hf]
    exact newF_ne_panic f
  case getter j =>
    obtain ⟨f, hf⟩ := field j ha
    simp only [Reflect.read, hf, Val.isNone, if_true]
    exact getterZero_ne_panic f
  case which g => simp [Reflect.read, ha]
  case range => simp [Reflect.read, Val.isNone]
  case getu => simp [Reflect.read]
  case valid => simp [Reflect.read]
  case llen j | mlen j | mhas j _ | mrange j =>
    cases hf : (S.msg i).fields[j]? with
    | none => simp [hf] at ha
    | some f => cases hs : f.shape <;> simp [hf, hs] at ha; simp [Reflect.read, hf, hs]
  case mget j k =>
    cases hf : (S.msg i).fields[j]? with
    | none => simp [hf] at ha
    | some f =>
      cases hs : f.shape <;> simp [hf, hs] at ha
      simp only [Reflect.read, hf, hs, Val.isNone, if_true, emptyMsg_slot S i j f hf]
      simp [FieldDesc.zero, hs, findEntry]
  case size => simp [Reflect.read]
  case enc => simp [Reflect.read, implMarshal_none]

/-- Every write on nil — at the root or through any path — panics and leaves the message nil. -/
theorem C09_nil_writes_panic (S : Schema) (i : Nat) (op : Op) (hw : op.isWrite = true) :
    Reflect.step S i .none op = (.none, .panic) := by
  simp only [Reflect.step, hw, if_true]
  cases op with
  | r o => simp [Op.isWrite] at hw
  | w o => rfl
  | «in» j op => rfl
  | «at» j k op => rfl
  | mv j k op => rfl

/-- `proto.Size(nil) = 0`, `proto.Marshal(nil)` = no bytes, for every option set and nesting budget. -/
theorem C09_nil_codec (S : Schema) (o : MOpts) (fuel i : Nat) :
    implSize S o fuel i .none = 0 ∧ implMarshal S o fuel i .none = .ok [] :=
  ⟨PU.implSize_none S o fuel i .none rfl, implMarshal_none S o fuel i⟩

/-- … exactly as on the empty message (deterministic marshalling). -/
theorem C09_empty_codec (S : Schema) (o : MOpts) (hd : o.det = true) (fuel i : Nat) :
    implSize S o (fuel+1) i (emptyMsg S i) = 0 ∧ implMarshal S o (fuel+1) i (emptyMsg S i) = .ok [] :=
  ⟨implSize_emptyMsg S o hd fuel i, implMarshal_emptyMsg S o hd fuel i⟩

/-- The reference (dynamicpb) invalid message behaves the same on reads: the IMPL nil receiver refines
    it at every path (codec ops are the subject of C02/C04). -/
theorem C09_nil_refines_spec (S : Schema) (i : Nat) (op : Op) (hr : op.isWrite = false)
    (hc : op.usesCodec = false) :
    (Reflect.step S i .none op).2 = (SpecReflect.step S i .none op).2 := by
  simp only [Reflect.step, SpecReflect.step, hr, Bool.false_eq_true, if_false]
  exact (stepR_none S op i).symm

/-! ### Non-vacuity: a testpb.A-like schema (message 0 = A, 1 = B, 2 = ImportedMessage) -/

def schemaA : Schema := ⟨[
  ⟨[⟨1, .scalar .enum, .singular⟩, ⟨2, .scalar .bool, .singular⟩, ⟨3, .scalar .int32, .singular⟩,
    ⟨15, .scalar .string, .singular⟩, ⟨16, .scalar .bytes, .singular⟩, ⟨17, .message 1, .singular⟩,
    ⟨18, .message 1, .map .string⟩, ⟨19, .message 1, .repeated false⟩, ⟨20, .message 1, .oneof 0⟩,
    ⟨21, .scalar .string, .oneof 0⟩, ⟨22, .scalar .enum, .repeated true⟩, ⟨23, .message 2, .singular⟩]⟩,
  ⟨[⟨1, .scalar .string, .singular⟩]⟩,
  ⟨[]⟩]⟩

example : schemaA.WF = true := by decide
-- Get of the unset message field / the empty list / the empty map / the inactive oneof member on nil
example : (Reflect.step schemaA 0 .none (.r (.get 5))).2 = .msgv false := rfl
example : (Reflect.step schemaA 0 .none (.r (.get 7))).2 = .listv false 0 := rfl
example : (Reflect.step schemaA 0 .none (.r (.get 6))).2 = .mapv false 0 := rfl
example : (Reflect.step schemaA 0 .none (.r (.get 9))).2 = .str [] := rfl
example : (Reflect.step schemaA 0 .none (.r (.which 0))).2 = .which none := rfl
-- the generated getters on the nil receiver: zero values (nil message pointer, nil slice, nil map, "")
example : (Reflect.step schemaA 0 .none (.r (.getter 5))).2 = .msgv false := rfl
example : (Reflect.step schemaA 0 .none (.r (.getter 7))).2 = .glist 0 := rfl
example : (Reflect.step schemaA 0 .none (.r (.getter 6))).2 = .gmap 0 := rfl
example : (Reflect.step schemaA 0 .none (.r (.getter 9))).2 = .str [] := rfl
example : (Reflect.step schemaA 0 .none (.in 5 (.r (.getter 0)))).2 = .str [] := rfl
example : (Reflect.step schemaA 0 .none (.r .range)).2 = .fields [] := rfl
-- a read through an unset message field reaches the nil message B and still answers
example : (Reflect.step schemaA 0 .none (.in 5 (.r (.get 0)))).2 = .str [] := rfl
example : (Reflect.step schemaA 0 .none (.r (.get 5))).2 ≠ .panic :=
  (C09_nil_reads_no_panic schemaA 0 (.get 5) (by decide)).1
example : Reflect.step schemaA 0 .none (.w (.set 2 (.bits 7))) = (.none, .panic) :=
  C09_nil_writes_panic _ _ _ rfl
example : Reflect.step schemaA 0 .none (.in 5 (.w (.set 0 (.blob false [104])))) = (.none, .panic) :=
  C09_nil_writes_panic _ _ _ rfl
-- the same write on the empty message succeeds (so "writes panic" is about nil, not about the op)
example : (Reflect.step schemaA 0 (emptyMsg schemaA 0) (.w (.set 2 (.bits 7)))).2 = .ok := rfl

end Pulsar

#print axioms Pulsar.C09_nil_reads
#print axioms Pulsar.C09_nil_reads_no_panic
#print axioms Pulsar.C09_nil_writes_panic
#print axioms Pulsar.C09_nil_codec
#print axioms Pulsar.C09_empty_codec
#print axioms Pulsar.C09_nil_refines_spec
