/-
  C15 (source level) — runtime.EncodeVarint as TRANSLATED FROM /repo's runtime/runtime.go on this run
  (`Pulsar.Xf.runtime_EncodeVarint`, loop as a fuel-recursive helper with fuel 10) stores exactly the minimal varint
  ending at the offset, touches no other byte, returns `offset - Sov(v)` and panics exactly when the varint does not
  fit in front of the offset inside the buffer.
-/
import Pulsar.Proofs.GoSrcEncodeVarint
namespace Pulsar

theorem C15_src_EncodeVarint_writes_minimal_varint (d : Bytes) (off v : Nat)
    (ho : off < 9223372036854775000) (hv : v < 18446744073709551616) :
    Xf.runtime_EncodeVarint d (off : Int) v =
      if sov v ≤ off ∧ off ≤ d.length
      then .ok (d.take (off - sov v) ++ varint v ++ d.drop off, ((off - sov v : Nat) : Int))
      else .panic := by
  rw [src_EncodeVarint d off v ho hv, encodeVarint_spec]

/-- in particular the loop never runs out of the fuel the translation gave it (`.err .other` is never the outcome) -/
theorem C15_src_EncodeVarint_fuel_suffices (d : Bytes) (off v : Nat)
    (ho : off < 9223372036854775000) (hv : v < 18446744073709551616) :
    Xf.runtime_EncodeVarint d (off : Int) v ≠ .err .other := by
  rw [C15_src_EncodeVarint_writes_minimal_varint d off v ho hv]
  split <;> simp

theorem C15_src_EncodeVarint_is_model (d : Bytes) (off v : Nat)
    (ho : off < 9223372036854775000) (hv : v < 18446744073709551616) :
    Xf.runtime_EncodeVarint d (off : Int) v = encodeVarint d off v :=
  src_EncodeVarint d off v ho hv

end Pulsar

#print axioms Pulsar.C15_src_EncodeVarint_writes_minimal_varint
#print axioms Pulsar.C15_src_EncodeVarint_fuel_suffices
