/-
  C10 — client parametricity: a program that talks to a generated message only through the reflection
  interface cannot tell it from the reference implementation.

  protobuf-go's generic algorithms (proto.Equal, Clone, Merge, the JSON and text codecs, …) reach a message
  only through `protoreflect.Message`. Such an algorithm is a deterministic CLIENT: from the outputs seen so
  far it chooses the next operation, or stops (`Client Op = List Out → Option Op`, Proofs/ReflectClient).
  `runClient step c fuel s outs` runs it for at most `fuel` operations.

  The theorems: run against the generated fast reflection (`Reflect.step S i`, from the Go struct `s`) and
  against the reference semantics (`SpecReflect.stepAbs S n i`, i.e. `SpecReflect.step S i` fed the same op
  with abstract value arguments `Op.abs`, from `abs s`), a client produces `OutsEq` traces and ends in
  `abs`-related states. So whatever such an algorithm computes from the reference implementation, it
  computes from the generated code: the algorithms may be treated as black boxes.

  Hypotheses, and why:
  * `msgOK S false n i s`, and every op the client chooses is `Op.ok S n i` — the domain of C08;
  * for clients that may use `size`/`enc`: `S.WF`, `i < S.msgs.length`, `utf8OK S n i s`, and the chosen ops
    are `Op.utf8` (their string arguments are valid UTF-8) — the reference marshaller rejects invalid
    UTF-8, the generated one does not (see C08). `Op.okU = Op.ok && Op.utf8`.
    Clients that never use a codec op need none of these (`C10_client_parametric_nocodec`).
  * The client sees IMPL outputs on one side and SPEC outputs on the other. `OutEq` is equality, so it
    makes the same choices. Were `OutEq` coarser, the client would have to respect it:
    `hresp : ∀ l l', OutsEq l l' → c l = c l'`. `C10_client_parametric_of_respects` takes exactly this
    hypothesis and never unfolds `OutEq`; `C10_client_respects` discharges it for every client.
  * The well-formedness of the chosen ops is only required *along the run* (`clientOKOn`, decidable):
    a client may misbehave on output sequences it never sees. `C10_client_parametric` is the corollary
    for clients that are well-formed on every output sequence.
-/
import Pulsar.Properties.C08
import Pulsar.Proofs.ReflectClient
namespace Pulsar

/-- every client respects `OutsEq` (because `OutEq` is equality; see the header) -/
theorem C10_client_respects {ω : Type} (c : Client ω) : ∀ l l', OutsEq l l' → c l = c l' :=
  fun _ _ h => by rw [OutsEq_eq h]

/-- The general form: any client that respects `OutsEq` and chooses well-formed ops along its run. Also
    gives the two invariants of the final IMPL state. -/
theorem C10_client_parametric_of_respects (S : Schema) (hS : S.WF = true) (n i : Nat) (hi : i < S.msgs.length)
    (s : Val) (hs : msgOK S false n i s = true) (hu : utf8OK S n i s = true)
    (c : Client Op) (hresp : ∀ l l', OutsEq l l' → c l = c l') (fuel : Nat)
    (hc : clientOKOn (Reflect.step S i) (Op.okU S n i) c fuel s [] = true) :
    OutsEq (runClient (Reflect.step S i) c fuel s []).2
           (runClient (SpecReflect.stepAbs S n i) c fuel (abs S n i s) []).2 ∧
    abs S n i (runClient (Reflect.step S i) c fuel s []).1
      = (runClient (SpecReflect.stepAbs S n i) c fuel (abs S n i s) []).1 ∧
    msgOK S false n i (runClient (Reflect.step S i) c fuel s []).1 = true ∧
    utf8OK S n i (runClient (Reflect.step S i) c fuel s []).1 = true := by
  have _ := hi  -- unused: `Schema.msg_wf`
  obtain ⟨h1, h2, h3, h4⟩ := runClient_sim (Reflect.step S i) (SpecReflect.stepAbs S n i) (ReflRel S n i)
    (Op.okU S n i) (ReflRel_stepAbs S hS n i) c hresp fuel s (abs S n i s) [] [] ⟨hs, hu, rfl⟩ trivial hc
  exact ⟨h1, h4, h2, h3⟩

/-- Client parametricity, ops checked along the run. -/
theorem C10_client_parametric_run (S : Schema) (hS : S.WF = true) (n i : Nat) (hi : i < S.msgs.length)
    (s : Val) (hs : msgOK S false n i s = true) (hu : utf8OK S n i s = true) (c : Client Op) (fuel : Nat)
    (hc : clientOKOn (Reflect.step S i) (Op.okU S n i) c fuel s [] = true) :
    OutsEq (runClient (Reflect.step S i) c fuel s []).2
           (runClient (SpecReflect.stepAbs S n i) c fuel (abs S n i s) []).2 ∧
    abs S n i (runClient (Reflect.step S i) c fuel s []).1
      = (runClient (SpecReflect.stepAbs S n i) c fuel (abs S n i s) []).1 :=
  let h := C10_client_parametric_of_respects S hS n i hi s hs hu c (C10_client_respects c) fuel hc
  ⟨h.1, h.2.1⟩

/-- Client parametricity: for every client all of whose ops are well-formed (`Op.ok`, string arguments valid
    UTF-8) and every fuel, the run against the generated reflection from a well-typed `s` and the run against
    the reference semantics from `abs s` yield equivalent traces and `abs`-related final states. -/
theorem C10_client_parametric (S : Schema) (hS : S.WF = true) (n i : Nat) (hi : i < S.msgs.length)
    (s : Val) (hs : msgOK S false n i s = true) (hu : utf8OK S n i s = true) (c : Client Op)
    (hc : ∀ outs op, c outs = some op → Op.ok S n i op = true ∧ Op.utf8 S n i op = true) (fuel : Nat) :
    OutsEq (runClient (Reflect.step S i) c fuel s []).2
           (runClient (SpecReflect.stepAbs S n i) c fuel (abs S n i s) []).2 ∧
    abs S n i (runClient (Reflect.step S i) c fuel s []).1
      = (runClient (SpecReflect.stepAbs S n i) c fuel (abs S n i s) []).1 :=
  C10_client_parametric_run S hS n i hi s hs hu c fuel
    (clientOKOn_of_forall _ _ c
      (fun outs op h => by simp only [Op.okU, (hc outs op h).1, (hc outs op h).2, Bool.and_self]) fuel s [])

/-- Clients that never use `size`/`enc` (Equal, Clone, Merge, Range-based walkers): no schema, UTF-8 or
    index hypothesis. -/
theorem C10_client_parametric_nocodec (S : Schema) (n i : Nat) (s : Val) (hs : msgOK S false n i s = true)
    (c : Client Op) (fuel : Nat)
    (hc : clientOKOn (Reflect.step S i) (fun op => Op.ok S n i op && !op.usesCodec) c fuel s [] = true) :
    OutsEq (runClient (Reflect.step S i) c fuel s []).2
           (runClient (SpecReflect.stepAbs S n i) c fuel (abs S n i s) []).2 ∧
    abs S n i (runClient (Reflect.step S i) c fuel s []).1
      = (runClient (SpecReflect.stepAbs S n i) c fuel (abs S n i s) []).1 := by
  obtain ⟨h1, _, h3⟩ := runClient_sim (Reflect.step S i) (SpecReflect.stepAbs S n i) (ReflRel0 S n i)
    (fun op => Op.ok S n i op && !op.usesCodec) (ReflRel0_stepAbs S n i) c (C10_client_respects c) fuel s
    (abs S n i s) [] [] ⟨hs, rfl⟩ trivial hc
  exact ⟨h1, h3⟩

/-- Two messages (Equal(a, b), Merge(dst, src), …): the client tags each op with the message it addresses
    (`false`: `a` of type `ia`, `true`: `b` of type `ib`); `step2` is the product machine. The messages may
    have different types and be typed with different fuels. -/
theorem C10_client_parametric_pair (S : Schema) (hS : S.WF = true) (na ia nb ib : Nat)
    (hia : ia < S.msgs.length) (hib : ib < S.msgs.length) (a b : Val)
    (ha : msgOK S false na ia a = true) (hua : utf8OK S na ia a = true)
    (hb : msgOK S false nb ib b = true) (hub : utf8OK S nb ib b = true)
    (c : Client (Bool × Op)) (fuel : Nat)
    (hc : clientOKOn (step2 (Reflect.step S ia) (Reflect.step S ib)) (ok2 (Op.okU S na ia) (Op.okU S nb ib))
            c fuel (a, b) [] = true) :
    OutsEq (runClient (step2 (Reflect.step S ia) (Reflect.step S ib)) c fuel (a, b) []).2
           (runClient (step2 (SpecReflect.stepAbs S na ia) (SpecReflect.stepAbs S nb ib)) c fuel
              (abs S na ia a, abs S nb ib b) []).2 ∧
    abs S na ia (runClient (step2 (Reflect.step S ia) (Reflect.step S ib)) c fuel (a, b) []).1.1
      = (runClient (step2 (SpecReflect.stepAbs S na ia) (SpecReflect.stepAbs S nb ib)) c fuel
              (abs S na ia a, abs S nb ib b) []).1.1 ∧
    abs S nb ib (runClient (step2 (Reflect.step S ia) (Reflect.step S ib)) c fuel (a, b) []).1.2
      = (runClient (step2 (SpecReflect.stepAbs S na ia) (SpecReflect.stepAbs S nb ib)) c fuel
              (abs S na ia a, abs S nb ib b) []).1.2 := by
  have _ := hia  -- unused: `Schema.msg_wf`
  have _ := hib  -- unused: `Schema.msg_wf`
  obtain ⟨h1, h2, h3⟩ := runClient_sim
    (step2 (Reflect.step S ia) (Reflect.step S ib))
    (step2 (SpecReflect.stepAbs S na ia) (SpecReflect.stepAbs S nb ib))
    (fun s t => ReflRel S na ia s.1 t.1 ∧ ReflRel S nb ib s.2 t.2)
    (ok2 (Op.okU S na ia) (Op.okU S nb ib))
    (step2_sim (ReflRel_stepAbs S hS na ia) (ReflRel_stepAbs S hS nb ib))
    c (C10_client_respects c) fuel (a, b) (abs S na ia a, abs S nb ib b) [] []
    ⟨⟨ha, hua, rfl⟩, ⟨hb, hub, rfl⟩⟩ trivial hc
  exact ⟨h1, h2.2.2, h3.2.2⟩

/-! ### Non-vacuity: concrete clients on the schema and state of C08 -/

/-- "Range, then Get of each visited field, then stop" (the skeleton of Clone / Equal / a text encoder) -/
def rangeGetClient : Client Op
  | [] => some (.r .range)
  | .fields js :: rest => (js[rest.length]?).map (fun j => .r (.get j))
  | _ => none

-- its run on `stateA`, evaluated: the populated fields, then their values
example : (runClient (Reflect.step schemaA8 0) rangeGetClient 10 stateA []).2
    = [.fields [2, 5, 6, 7, 9], .bits 7, .msgv true, .mapv true 2, .listv true 1, .str [115]] := rfl
example : (runClient (SpecReflect.stepAbs schemaA8 3 0) rangeGetClient 10 (abs schemaA8 3 0 stateA) []).2
    = [.fields [2, 5, 6, 7, 9], .bits 7, .msgv true, .mapv true 2, .listv true 1, .str [115]] := rfl

theorem rangeGetClient_ok (outs : List Out) (op : Op) (h : rangeGetClient outs = some op) :
    Op.ok schemaA8 3 0 op = true ∧ Op.utf8 schemaA8 3 0 op = true := by
  unfold rangeGetClient at h
  split at h
  · cases h; exact ⟨rfl, rfl⟩
  · rename_i js rest
    cases hj : js[rest.length]? with
    | none => simp [hj] at h
    | some j => simp only [hj, Option.map_some, Option.some.injEq] at h; subst h; exact ⟨rfl, rfl⟩
  · cases h

example (fuel : Nat) :
    OutsEq (runClient (Reflect.step schemaA8 0) rangeGetClient fuel stateA []).2
           (runClient (SpecReflect.stepAbs schemaA8 3 0) rangeGetClient fuel (abs schemaA8 3 0 stateA) []).2 ∧
    abs schemaA8 3 0 (runClient (Reflect.step schemaA8 0) rangeGetClient fuel stateA []).1
      = (runClient (SpecReflect.stepAbs schemaA8 3 0) rangeGetClient fuel (abs schemaA8 3 0 stateA) []).1 :=
  C10_client_parametric schemaA8 (by decide) 3 0 (by decide) stateA (by decide) stateA_utf8 rangeGetClient
    rangeGetClient_ok fuel

/-- a client that writes and then uses the codec: append an element to LIST, set the element's string, ask
    for the size of the element, then marshal the whole message -/
def writeEncClient : Client Op
  | [] => some (.w (.lappm 7))
  | [_] => some (.at 7 1 (.w (.set 0 (.blob true [111, 107]))))
  | [_, _] => some (.at 7 1 (.r .size))
  | [_, _, _] => some (.r .enc)
  | _ => none

example : clientOKOn (Reflect.step schemaA8 0) (fun op => Op.ok schemaA8 3 0 op) writeEncClient 9 stateA [] = true := by
  decide

unseal utf8Valid in
theorem writeEncClient_ok (outs : List Out) (op : Op) (h : writeEncClient outs = some op) :
    Op.ok schemaA8 3 0 op = true ∧ Op.utf8 schemaA8 3 0 op = true := by
  unfold writeEncClient at h
  split at h <;> cases h
  all_goals decide

example (fuel : Nat) :
    OutsEq (runClient (Reflect.step schemaA8 0) writeEncClient fuel stateA []).2
           (runClient (SpecReflect.stepAbs schemaA8 3 0) writeEncClient fuel (abs schemaA8 3 0 stateA) []).2 ∧
    abs schemaA8 3 0 (runClient (Reflect.step schemaA8 0) writeEncClient fuel stateA []).1
      = (runClient (SpecReflect.stepAbs schemaA8 3 0) writeEncClient fuel (abs schemaA8 3 0 stateA) []).1 :=
  C10_client_parametric schemaA8 (by decide) 3 0 (by decide) stateA (by decide) stateA_utf8 writeEncClient
    writeEncClient_ok fuel

/-- a two-message client (one step of Merge): read INT32 of the second message, store it in the first.
    It is *not* well-formed on every output sequence (`.bits n` with `n ≥ 2^32` is no int32), only along its
    actual runs — which is all `C10_client_parametric_pair` asks for. -/
def copyInt32Client : Client (Bool × Op)
  | [] => some (true, .r (.get 2))
  | [.bits n] => some (false, .w (.set 2 (.bits n)))
  | [_, _] => some (false, .r (.get 2))
  | _ => none

/-- the source message: A{ INT32: 41 } -/
def stateSrc : Val := .msg
  [.bits 0, .bits 0, .bits 41, .blob false [], .blob false [], .none, .map false [], .list false [], .none, .none,
   .list false [], .none] []

example : (runClient (step2 (Reflect.step schemaA8 0) (Reflect.step schemaA8 0)) copyInt32Client 5
    (stateA, stateSrc) []).2 = [.bits 41, .ok, .bits 41] := rfl

unseal utf8Valid in
theorem stateSrc_utf8 : utf8OK schemaA8 3 0 stateSrc = true := by decide

example :
    OutsEq (runClient (step2 (Reflect.step schemaA8 0) (Reflect.step schemaA8 0)) copyInt32Client 5
              (stateA, stateSrc) []).2
           (runClient (step2 (SpecReflect.stepAbs schemaA8 3 0) (SpecReflect.stepAbs schemaA8 3 0)) copyInt32Client 5
              (abs schemaA8 3 0 stateA, abs schemaA8 3 0 stateSrc) []).2 ∧
    abs schemaA8 3 0 (runClient (step2 (Reflect.step schemaA8 0) (Reflect.step schemaA8 0)) copyInt32Client 5
              (stateA, stateSrc) []).1.1
      = (runClient (step2 (SpecReflect.stepAbs schemaA8 3 0) (SpecReflect.stepAbs schemaA8 3 0)) copyInt32Client 5
              (abs schemaA8 3 0 stateA, abs schemaA8 3 0 stateSrc) []).1.1 ∧
    abs schemaA8 3 0 (runClient (step2 (Reflect.step schemaA8 0) (Reflect.step schemaA8 0)) copyInt32Client 5
              (stateA, stateSrc) []).1.2
      = (runClient (step2 (SpecReflect.stepAbs schemaA8 3 0) (SpecReflect.stepAbs schemaA8 3 0)) copyInt32Client 5
              (abs schemaA8 3 0 stateA, abs schemaA8 3 0 stateSrc) []).1.2 :=
  C10_client_parametric_pair schemaA8 (by decide) 3 0 3 0 (by decide) (by decide) stateA stateSrc (by decide)
    stateA_utf8 (by decide) stateSrc_utf8 copyInt32Client 5 (by decide)

end Pulsar

#print axioms Pulsar.C10_client_respects
#print axioms Pulsar.C10_client_parametric_of_respects
#print axioms Pulsar.C10_client_parametric_run
#print axioms Pulsar.C10_client_parametric
#print axioms Pulsar.C10_client_parametric_nocodec
#print axioms Pulsar.C10_client_parametric_pair
