/-
  C02 — Deterministic encoding is byte-identical to the reference encoder.
-/
import Pulsar.Proofs.EncodeTyped
import Pulsar.Proofs.EncodeExample
namespace Pulsar

/-- `encodeKey` emits exactly the protowire tag for every valid field number. -/
theorem C02_keyBytes_eq_tag (num wt : Nat) (hn : num < 536870912) (hw : wt < 8) :
    keyBytes num wt = tag num wt := keyBytes_eq_tag num wt hn hw

/-- the generator's wire-type table (extracted from generator/helpers.go) is the wire-format one. -/
theorem C02_wireType_table (k : Kind) : Extracted.wireType k = k.specWireType ∧ Extracted.messageWireType = 2 :=
  ⟨wireType_eq_spec k, rfl⟩

/-- For every schema, every well-typed value (no Go-only nil junk), any map iteration order the Go
    runtime may choose: deterministic proto.Marshal of the generated message succeeds and returns exactly
    the reference encoder's bytes (fields ascending by number, then oneof members by oneof declaration
    index, then unknown fields; map entries sorted by key; packed per descriptor; minimal varints;
    proto3 defaults omitted). -/
theorem C02_det_eq_reference (S : Schema) (hS : S.WF = true) (fuel i : Nat) (v : Val)
    (π : List Val → List Val) (hi : i < S.msgs.length) (hv : msgOK S false fuel i v = true) :
    implMarshal S ⟨true, π⟩ fuel i v = .ok (specEncode S fuel i v) := by
  have _ := hi  -- unused: `Schema.msg_wf`
  obtain ⟨h1, _, _, h4⟩ := marshal_ok hS ⟨true, π⟩ (fun kk es => sortEntries_perm kk es) hv
  rw [h1, h4 rfl]

#print axioms C02_keyBytes_eq_tag
#print axioms C02_wireType_table
#print axioms C02_det_eq_reference

/-! ### non-vacuity: a concrete well-formed schema and a well-typed value with every shape populated
    (map entries stored out of key order, an active message-typed oneof member, unknown bytes) -/
section NonVacuity
open Example

example : exS.WF = true ∧ (0 < exS.msgs.length) ∧ msgOK exS false 2 0 exV = true :=
  ⟨exS_wf, by decide, exV_ok⟩

example (π : List Val → List Val) :
    implMarshal exS ⟨true, π⟩ 2 0 exV = .ok (specEncode exS 2 0 exV) :=
  C02_det_eq_reference exS exS_wf 2 0 exV π (by decide) exV_ok

/-- the largest valid field number with the largest wire type still fits the 32-bit key arithmetic -/
example : keyBytes 536870911 5 = tag 536870911 5 := C02_keyBytes_eq_tag _ _ (by decide) (by decide)

end NonVacuity

end Pulsar
