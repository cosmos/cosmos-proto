/-
  C05 / C02 / C04 (source level) — runtime.SizeInputToOptions and runtime.MarshalInputToOptions as TRANSLATED FROM
  /repo's runtime/runtime.go on this run: the options every generated size / marshal closure hands to nested
  messages carry the Deterministic and UseCachedSize flags of the input unchanged, and the two functions build the
  same options (Size and Marshal of a nested message run in the same mode). Fields of types outside the translated
  fragment (NoUnkeyedLiterals, Message, Buf) are dropped by the translator.
  Proved by exhaustion over the 256 values of the flags byte: independent of how the source tests the bits.
-/
import Pulsar.ExtractedFns
namespace Pulsar

theorem C05_src_marshal_flags_forwarded (input : Xf.Rec.protoiface_MarshalInput) (hf : input.Flags < 256) :
    Xf.runtime_MarshalInputToOptions input =
      .ok { AllowPartial := true, Deterministic := input.Flags.testBit 0, UseCachedSize := input.Flags.testBit 1 } := by
  obtain ⟨fl⟩ := input
  revert fl
  decide +kernel

theorem C05_src_size_flags_forwarded (input : Xf.Rec.protoiface_SizeInput) (hf : input.Flags < 256) :
    Xf.runtime_SizeInputToOptions input =
      .ok { AllowPartial := true, Deterministic := input.Flags.testBit 0, UseCachedSize := input.Flags.testBit 1 } := by
  obtain ⟨fl⟩ := input
  revert fl
  decide +kernel

/-- Size and Marshal of nested messages are called with the same options -/
theorem C05_src_size_and_marshal_options_agree (fl : Nat) (hf : fl < 256) :
    Xf.runtime_SizeInputToOptions { Flags := fl } = Xf.runtime_MarshalInputToOptions { Flags := fl } := by
  rw [C05_src_marshal_flags_forwarded _ hf, C05_src_size_flags_forwarded _ hf]

/-- in particular: a deterministic marshal stays deterministic at every nesting level -/
theorem C05_src_deterministic_propagates (fl : Nat) (hf : fl < 256) (hdet : fl.testBit 0 = true) :
    ∃ o, Xf.runtime_MarshalInputToOptions { Flags := fl } = .ok o ∧ o.Deterministic = true :=
  ⟨_, C05_src_marshal_flags_forwarded _ hf, hdet⟩

example : Xf.runtime_MarshalInputToOptions { Flags := 1 } = .ok { AllowPartial := true, Deterministic := true, UseCachedSize := false } := by decide
example : Xf.runtime_MarshalInputToOptions { Flags := 2 } = .ok { AllowPartial := true, Deterministic := false, UseCachedSize := true } := by decide

end Pulsar

#print axioms Pulsar.C05_src_marshal_flags_forwarded
#print axioms Pulsar.C05_src_size_and_marshal_options_agree
