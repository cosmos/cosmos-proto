/-
  C08 — the generated fast reflection (IMPL machine `Reflect.step`, over the Go struct) refines
  protobuf-go's reference semantics (SPEC machine `SpecReflect.step`, dynamicpb over abstract messages),
  step by step and along every history; with the consequences for oneofs, Range and list/map views.

  Domain: the state is a well-typed, junk-free Go struct (`msgOK S false n i s`), the op's value arguments
  are well-typed (`Op.ok S n i op`). `abs = repNorm` is the abstraction; the SPEC machine receives the op
  with abstract value arguments (`Op.abs`). Field indexes out of range and ops addressed to a field of the
  wrong shape are *inside* the domain (both machines panic).
-/
import Pulsar.Proofs.ReflectUtf8
import Pulsar.Proofs.ReflectCor
namespace Pulsar

/-- One step: the outputs are equivalent and the abstract states agree. Covers every op of the protocol at
    every path (`in`/`at`/`mv` prefixes), except that the *output* of `size`/`enc` is the codec's business
    (`C08_codec_statement`). `OutEq` is plain equality (see its definition for why). -/
theorem C08_step_refines (S : Schema) (n i : Nat) (s : Val) (op : Op)
    (hs : msgOK S false n i s = true) (hop : Op.ok S n i op = true) (hc : op.usesCodec = false) :
    OutEq (Reflect.step S i s op).2 (SpecReflect.step S i (abs S n i s) (Op.abs S n i op)).2 ∧
    abs S n i (Reflect.step S i s op).1 = (SpecReflect.step S i (abs S n i s) (Op.abs S n i op)).1 :=
  let h := step_refines S n i s op hs hop
  ⟨h.1 (fun h => by rw [hc] at h; cases h), h.2.1⟩

/-- … and the abstract states agree for the codec ops as well (they do not change the state). -/
theorem C08_step_state (S : Schema) (n i : Nat) (s : Val) (op : Op)
    (hs : msgOK S false n i s = true) (hop : Op.ok S n i op = true) :
    abs S n i (Reflect.step S i s op).1 = (SpecReflect.step S i (abs S n i s) (Op.abs S n i op)).1 :=
  (step_refines S n i s op hs hop).2.1

/-- The invariant: every step keeps the Go struct well-typed and junk-free (one slot per field, no nil
    list element / map value / typed-nil wrapper, distinct map keys, at most one member per oneof). -/
theorem C08_step_preserves_wf (S : Schema) (n i : Nat) (s : Val) (op : Op)
    (hs : msgOK S false n i s = true) (hop : Op.ok S n i op = true) :
    msgOK S false n i (Reflect.step S i s op).1 = true :=
  (step_refines S n i s op hs hop).2.2

/-- Histories: the output sequences are pointwise equivalent and the final abstract states agree. -/
theorem C08_history_refines (S : Schema) (n i : Nat) (s : Val) (ops : List Op)
    (hs : msgOK S false n i s = true)
    (hops : ∀ op ∈ ops, Op.ok S n i op = true ∧ op.usesCodec = false) :
    OutsEq (Reflect.run S i s ops).2 (SpecReflect.run S i (abs S n i s) (ops.map (Op.abs S n i))).2 ∧
    abs S n i (Reflect.run S i s ops).1 = (SpecReflect.run S i (abs S n i s) (ops.map (Op.abs S n i))).1 := by
  obtain ⟨h1, _, h2⟩ := run_sim (Reflect.step S i) (SpecReflect.step S i) (Op.abs S n i) (ReflRel0 S n i)
    (fun op => Op.ok S n i op = true ∧ op.usesCodec = false) (ReflRel0_step S n i) ops s _ [] ⟨hs, rfl⟩ hops
  unfold Reflect.run SpecReflect.run
  rw [← h1]
  exact ⟨OutsEq_refl _, h2⟩

/-- After any history every oneof group has at most one member set. -/
theorem C08_oneof_at_most_one (S : Schema) (n i : Nat) (s : Val) (ops : List Op)
    (hs : msgOK S false n i s = true) (hops : ∀ op ∈ ops, Op.ok S n i op = true) (g : Nat) :
    (((S.msg i).fields.zip (Reflect.run S i s ops).1.slots).filter
      (fun p => p.1.group? == some g && !p.2.isNone)).length ≤ 1 := by
  have hw := run_preserves_wf S n i ops s [] hs hops
  exact oneofOK_le_one (msgOK_oneofOK hw) g

/-- `Set` of a oneof member makes it the set member (with the stored value) and unsets every other
    member of the group; fields outside the group keep their slot. -/
theorem C08_set_member_replaces (S : Schema) (n i : Nat) (slots : List Val) (u : Bytes) (j g : Nat)
    (f : FieldDesc) (a x : Val)
    (hs : msgOK S false (n+1) i (.msg slots u) = true) (hf : (S.msg i).fields[j]? = some f)
    (hsh : f.shape = .oneof g) (hx : Reflect.storeElem f.elem a = some x) :
    let s' := (Reflect.step S i (.msg slots u) (.w (.set j a))).1
    (Reflect.step S i s' (.r (.has j))).2 = .bool true ∧
    (Reflect.step S i s' (.r (.get j))).2 = outElem f.elem x ∧
    (Reflect.step S i s' (.r (.which g))).2 = .which (some j) ∧
    (∀ j' f', j' ≠ j → (S.msg i).fields[j']? = some f' → f'.group? = some g →
        (Reflect.step S i s' (.r (.has j'))).2 = .bool false) ∧
    (∀ j' f', (S.msg i).fields[j']? = some f' → f'.group? ≠ some g → s'.slot j' = slots.getD j' .none) := by
  have hlen := msgOK_length hs
  have hjl : j < (clearGroup (S.msg i).fields g slots).length := by
    rw [clearGroup_length _ _ _ hlen]; exact lt_of_getElem?_some hf
  intro s'
  have hs' : s' = .msg ((clearGroup (S.msg i).fields g slots).set j (.one x)) u := by
    show (Reflect.step S i (.msg slots u) (.w (.set j a))).1 = _
    rw [step_write_field _ rfl hf]
    simp only [Reflect.writeF, Reflect.setF, hsh, hx, applyFW]
  rw [hs']
  simp only [step_read, Reflect.read, Val.isNone_msg, Bool.false_eq_true, if_false, Val.slot, Val.slots_msg]
  refine ⟨?_, ?_, ?_, ?_, ?_⟩
  · simp only [hf, getD_set_self hjl, Reflect.hasF, hsh]
  · simp only [hf, getD_set_self hjl, Reflect.getF, hsh]
  · have hany : (S.msg i).fields.any (fun f => f.group? == some g) = true :=
      List.any_eq_true.2 ⟨f, List.mem_of_getElem? hf, by simp [FieldDesc.group?_eq_some.2 hsh]⟩
    simp only [hany, if_true]
    have := whichFrom_eq_some g (S.msg i).fields ((clearGroup (S.msg i).fields g slots).set j (.one x)) 0 j f hf
      (FieldDesc.group?_eq_some.2 hsh) (by rw [getD_set_self hjl]; rfl)
      (fun j' f' hj' hf' hg' => by
        rw [getD_set_ne (by omega), getD_clearGroup hf', hg']
        simp [Val.isNone])
    rw [this]; simp
  · intro j' f' hne hf' hg'
    have hsh' := FieldDesc.group?_eq_some.1 hg'
    simp only [hf', getD_set_ne (Ne.symm hne), getD_clearGroup hf', hg',
      beq_self_eq_true, if_true, Reflect.hasF, hsh']
  · intro j' f' hf' hg'
    have hne : j ≠ j' := by
      intro h; subst h
      rw [hf] at hf'; cases hf'
      exact hg' (FieldDesc.group?_eq_some.2 hsh)
    have hb : (f'.group? == some g) = false := by simpa using hg'
    simp only [getD_set_ne hne, getD_clearGroup hf', hb, Bool.false_eq_true, if_false]

/-- `Clear` of a oneof member that is not the set one changes nothing (in particular it does not unset
    the sibling that is set). -/
theorem C08_clear_inactive_member_noop (S : Schema) (i : Nat) (slots : List Val) (u : Bytes) (j g : Nat)
    (f : FieldDesc) (hf : (S.msg i).fields[j]? = some f) (hsh : f.shape = .oneof g)
    (hin : slots.getD j .none = .none) :
    Reflect.step S i (.msg slots u) (.w (.clear j)) = (.msg slots u, .ok) := by
  rw [step_write_field _ rfl hf]
  have hz := FieldDesc.zero_oneof hsh
  have hset : slots.set j Val.none = slots := by
    have := set_getD_self Val.none slots j
    rw [hin] at this; exact this
  simp only [Reflect.writeF, Reflect.clearF, applyFW, hz, hset]

/-- `Range` visits exactly the populated fields, each exactly once (the visited indexes are strictly
    increasing, and `j` is visited iff `Has(j)`). -/
theorem C08_range_exactly_populated_once (S : Schema) (n i : Nat) (slots : List Val) (u : Bytes)
    (hs : msgOK S false (n+1) i (.msg slots u) = true) :
    ∃ js, (Reflect.step S i (.msg slots u) (.r .range)).2 = .fields js ∧
      js.Pairwise (· < ·) ∧ js.Nodup ∧
      ∀ j, j ∈ js ↔ (Reflect.step S i (.msg slots u) (.r (.has j))).2 = .bool true := by
  have hlen := msgOK_length hs
  refine ⟨idxFilter Reflect.hasF 0 (S.msg i).fields slots, ?_, idxFilter_sorted _ _ _ _, ?_, ?_⟩
  · simp [step_read, Reflect.read]
  · exact (idxFilter_sorted Reflect.hasF (S.msg i).fields slots 0).imp (fun h => Nat.ne_of_lt h)
  · intro j
    rw [mem_idxFilter]
    simp only [step_read, Reflect.read, Val.isNone_msg, Bool.false_eq_true, if_false, Val.slot, Val.slots_msg,
      Nat.zero_add]
    constructor
    · rintro ⟨j', f, rfl, hf, _, hp⟩
      simp only [hf, hp]
    · intro h
      cases hf : (S.msg i).fields[j]? with
      | none => simp [hf] at h
      | some f =>
        simp only [hf, Out.bool.injEq] at h
        exact ⟨j, f, rfl, hf, hlen ▸ lt_of_getElem?_some hf, h⟩

/-- List views write through: after `Mutable(fd).List().Append(v)` the message reports one more element
    (`Len`, `Get`'s view) and `Get(len)` is the appended value. -/
theorem C08_mutable_view_writes_through_list (S : Schema) (i : Nat) (slots : List Val) (u : Bytes) (j : Nat)
    (f : FieldDesc) (p : Bool) (a x : Val)
    (hl : slots.length = (S.msg i).fields.length) (hf : (S.msg i).fields[j]? = some f)
    (hsh : f.shape = .repeated p) (hx : Reflect.storeElem f.elem a = some x) :
    let s' := (Reflect.step S i (.msg slots u) (.w (.lapp j a))).1
    (Reflect.step S i (.msg slots u) (.r (.llen j))).2 = .nat (slots.getD j .none).elems.length ∧
    (Reflect.step S i s' (.r (.llen j))).2 = .nat ((slots.getD j .none).elems.length + 1) ∧
    (Reflect.step S i s' (.r (.get j))).2 = .listv true ((slots.getD j .none).elems.length + 1) ∧
    (Reflect.step S i s' (.r (.lget j (slots.getD j .none).elems.length))).2 = outElem f.elem x := by
  have hjl : j < slots.length := hl ▸ lt_of_getElem?_some hf
  intro s'
  have hs' : s' = .msg (slots.set j (.list true ((slots.getD j .none).elems ++ [x]))) u := by
    show (Reflect.step S i (.msg slots u) (.w (.lapp j a))).1 = _
    rw [step_write_field _ rfl hf]
    simp only [Reflect.writeF, Reflect.lappF, hsh, hx, applyFW]
  rw [hs']
  simp only [step_read, Reflect.read, Val.isNone_msg, Bool.false_eq_true, if_false, Val.slot, Val.slots_msg, hf,
    hsh, getD_set_self hjl, Val.elems_list, List.length_append, List.length_cons, List.length_nil,
    Reflect.getF]
  generalize (slots.getD j Val.none).elems = es
  refine ⟨trivial, trivial, ?_, ?_⟩
  · cases es <;> rfl
  · rw [List.getElem?_append_right (Nat.le_refl _)]
    simp

/-- Map views write through: after `Mutable(fd).Map().Set(k, v)` the message has the key and `Get(k)` is
    the stored value. -/
theorem C08_mutable_view_writes_through_map (S : Schema) (i : Nat) (slots : List Val) (u : Bytes) (j : Nat)
    (f : FieldDesc) (kk : Kind) (k k' a x : Val)
    (hl : slots.length = (S.msg i).fields.length) (hf : (S.msg i).fields[j]? = some f)
    (hsh : f.shape = .map kk) (hk : Reflect.storeElem (.scalar kk) k = some k')
    (hx : Reflect.storeElem f.elem a = some x) :
    let s' := (Reflect.step S i (.msg slots u) (.w (.mset j k a))).1
    (Reflect.step S i s' (.r (.mhas j k))).2 = .bool true ∧
    (Reflect.step S i s' (.r (.mget j k))).2 = outElem f.elem x := by
  have hjl : j < slots.length := hl ▸ lt_of_getElem?_some hf
  have hkk : kbeqOf kk k' k = true := by
    obtain ⟨h1, h2⟩ := storeElem_scalar_bits hk
    rw [kbeqOf_congr kk rfl rfl h1.symm h2.symm]; exact kbeqOf_refl kk k'
  intro s'
  have hs' : s' = .msg (slots.set j (.map true (mapPut (kbeqOf kk) (slots.getD j .none).elems k' x))) u := by
    show (Reflect.step S i (.msg slots u) (.w (.mset j k a))).1 = _
    rw [step_write_field _ rfl hf]
    simp only [Reflect.writeF, Reflect.msetF, hsh, hk, hx, applyFW]
  rw [hs']
  simp only [step_read, Reflect.read, Val.isNone_msg, Bool.false_eq_true, if_false, Val.slot, Val.slots_msg, hf,
    hsh, getD_set_self hjl, Val.elems_map, any_mapPut kk _ k k' x hkk, findEntry_mapPut kk _ k k' x hkk,
    Val.value_entry, and_self]

/-- Views write through (lists and maps). -/
theorem C08_mutable_view_writes_through :
    (∀ (S : Schema) (i : Nat) (slots : List Val) (u : Bytes) (j : Nat) (f : FieldDesc) (p : Bool) (a x : Val),
      slots.length = (S.msg i).fields.length → (S.msg i).fields[j]? = some f → f.shape = .repeated p →
      Reflect.storeElem f.elem a = some x →
      (Reflect.step S i (Reflect.step S i (.msg slots u) (.w (.lapp j a))).1 (.r (.llen j))).2
        = .nat ((slots.getD j .none).elems.length + 1)) ∧
    (∀ (S : Schema) (i : Nat) (slots : List Val) (u : Bytes) (j : Nat) (f : FieldDesc) (kk : Kind) (k k' a x : Val),
      slots.length = (S.msg i).fields.length → (S.msg i).fields[j]? = some f → f.shape = .map kk →
      Reflect.storeElem (.scalar kk) k = some k' → Reflect.storeElem f.elem a = some x →
      (Reflect.step S i (Reflect.step S i (.msg slots u) (.w (.mset j k a))).1 (.r (.mget j k))).2
        = outElem f.elem x) :=
  ⟨fun S i slots u j f p a x hl hf hsh hx =>
      (C08_mutable_view_writes_through_list S i slots u j f p a x hl hf hsh hx).2.1,
   fun S i slots u j f kk k k' a x hl hf hsh hk hx =>
      (C08_mutable_view_writes_through_map S i slots u j f kk k k' a x hl hf hsh hk hx).2⟩

/-- What is left to the codec properties: on well-typed values with valid UTF-8 strings the outputs of
    `size`/`enc` agree as well. This is C02 (`implMarshal = specEncode`) composed with C05
    (`specEncode` does not depend on the representation) and the Size lemma of C04; proved as
    `C08_codec_ops_refine`. -/
def C08_codec_statement : Prop :=
  ∀ (S : Schema), S.WF = true → ∀ (n i : Nat) (s : Val), i < S.msgs.length → msgOK S false n i s = true →
    utf8OK S n i s = true → ∀ (o : ROp), o.usesCodec = true →
      (Reflect.step S i s (.r o)).2 = (SpecReflect.step S i (abs S n i s) (.r o)).2

/-! ### The codec ops, and every op at once

  The SPEC machine's `enc` is `proto.Marshal` of the reference implementation: it *fails* (`err`) on a
  proto3 string that is not valid UTF-8, whereas the generated marshaller does not validate. Hence the
  hypothesis `utf8OK` on the state. `Op.utf8` (Proofs/ReflectUtf8) says that the strings a write op stores
  are valid UTF-8; such ops preserve `utf8OK`, so the hypothesis is an invariant of histories. -/

/-- `C08_codec_statement` holds: at the root, `size` and `enc` give the same output on the Go struct and on
    the abstract message (well-formed schema, well-typed state, valid UTF-8). -/
theorem C08_codec_ops_refine : C08_codec_statement := by
  intro S hS n i s hi hs hu o hc
  simp only [step_read, SpecReflect.step, Op.isWrite, Bool.false_eq_true, if_false, SpecReflect.stepR]
  exact (read_refines_codec S hS n i s hs hu o hc).symm

/-- One step, **every** op of the protocol (codec or not, any path): outputs equivalent, abstract states
    equal. Compared with `C08_step_refines` the hypothesis `usesCodec = false` is traded for: well-formed
    schema, type index in range, valid UTF-8 in the state (needed by `enc` only) and in the op's arguments
    (needed only to keep the invariant; see `C08_step_preserves_utf8`). -/
theorem C08_step_refines_all (S : Schema) (hS : S.WF = true) (n i : Nat) (s : Val) (op : Op)
    (hi : i < S.msgs.length) (hs : msgOK S false n i s = true) (hu : utf8OK S n i s = true)
    (hop : Op.ok S n i op = true) :
    OutEq (Reflect.step S i s op).2 (SpecReflect.step S i (abs S n i s) (Op.abs S n i op)).2 ∧
    abs S n i (Reflect.step S i s op).1 = (SpecReflect.step S i (abs S n i s) (Op.abs S n i op)).1 :=
  have _ := hi  -- unused: `Schema.msg_wf`
  ⟨(step_refines S n i s op hs hop).1 (fun _ => ⟨hS, hu⟩), C08_step_state S n i s op hs hop⟩

/-- … in particular one step of a codec op at any path (`in`/`at`/`mv` prefixes; the target may be an unpopulated message:
    `0` / no bytes on both sides): outputs equivalent, states related. -/
theorem C08_step_refines_codec (S : Schema) (hS : S.WF = true) (n i : Nat) (s : Val) (op : Op)
    (hi : i < S.msgs.length) (hs : msgOK S false n i s = true) (hu : utf8OK S n i s = true)
    (hop : Op.ok S n i op = true) (_ : op.usesCodec = true) :
    OutEq (Reflect.step S i s op).2 (SpecReflect.step S i (abs S n i s) (Op.abs S n i op)).2 ∧
    abs S n i (Reflect.step S i s op).1 = (SpecReflect.step S i (abs S n i s) (Op.abs S n i op)).1 :=
  C08_step_refines_all S hS n i s op hi hs hu hop

/-- The UTF-8 invariant: an op whose string arguments are valid UTF-8 keeps every string of the state valid
    (no typing hypothesis needed). -/
theorem C08_step_preserves_utf8 (S : Schema) (n i : Nat) (s : Val) (op : Op)
    (hu : utf8OK S n i s = true) (hop : Op.utf8 S n i op = true) :
    utf8OK S n i (Reflect.step S i s op).1 = true :=
  step_utf8 S n i s op hu hop

/-- Histories over every op: output sequences pointwise equivalent, final abstract states equal. -/
theorem C08_history_refines_all (S : Schema) (hS : S.WF = true) (n i : Nat) (s : Val) (ops : List Op)
    (hi : i < S.msgs.length) (hs : msgOK S false n i s = true) (hu : utf8OK S n i s = true)
    (hops : ∀ op ∈ ops, Op.ok S n i op = true ∧ Op.utf8 S n i op = true) :
    OutsEq (Reflect.run S i s ops).2 (SpecReflect.run S i (abs S n i s) (ops.map (Op.abs S n i))).2 ∧
    abs S n i (Reflect.run S i s ops).1 = (SpecReflect.run S i (abs S n i s) (ops.map (Op.abs S n i))).1 := by
  have _ := hi  -- unused: `Schema.msg_wf`
  obtain ⟨h1, _, _, h2⟩ := run_sim (Reflect.step S i) (SpecReflect.step S i) (Op.abs S n i) (ReflRel S n i)
    (fun op => Op.ok S n i op = true ∧ Op.utf8 S n i op = true) (ReflRel_step S hS n i) ops s _ []
    ⟨hs, hu, rfl⟩ hops
  unfold Reflect.run SpecReflect.run
  rw [← h1]
  exact ⟨OutsEq_refl _, h2⟩

/-! ### Non-vacuity: a testpb.A-like schema and a non-trivial state -/

def schemaA8 : Schema := ⟨[
  ⟨[⟨1, .scalar .enum, .singular⟩, ⟨2, .scalar .bool, .singular⟩, ⟨3, .scalar .int32, .singular⟩,
    ⟨15, .scalar .string, .singular⟩, ⟨16, .scalar .bytes, .singular⟩, ⟨17, .message 1, .singular⟩,
    ⟨18, .message 1, .map .string⟩, ⟨19, .message 1, .repeated false⟩, ⟨20, .message 1, .oneof 0⟩,
    ⟨21, .scalar .string, .oneof 0⟩, ⟨22, .scalar .enum, .repeated true⟩, ⟨23, .message 2, .singular⟩]⟩,
  ⟨[⟨1, .scalar .string, .singular⟩]⟩,
  ⟨[]⟩]⟩

def msgB (b : Bytes) : Val := .msg [.blob false b] []

/-- A{ INT32: 7, BYTES: non-nil empty, MESSAGE: B{x:"hi"}, MAP: {"b": B{"x"}, "a": B{}} (stored unsorted),
       LIST: [B{"q"}], ONEOF_STRING: "s", LIST_ENUM: allocated-empty } -/
def stateA : Val := .msg
  [.bits 0, .bits 0, .bits 7, .blob false [], .blob true [], msgB [104, 105],
   .map true [.entry (.blob false [98]) (msgB [120]), .entry (.blob false [97]) (msgB [])],
   .list true [msgB [113]], .none, .one (.blob false [115]), .list true [], .none] []

example : schemaA8.WF = true := by decide
example : msgOK schemaA8 false 3 0 stateA = true := by decide

/-- a history exercising every group of ops, with paths -/
def histA : List Op :=
  [.r (.has 2), .w (.set 8 (msgB [122])), .r (.which 0), .w (.clear 9), .r (.which 0),
   .in 8 (.w (.set 0 (.blob false [121]))), .w (.mset 6 (.blob false [99]) (msgB [])), .r (.mrange 6),
   .mv 6 (.blob false [97]) (.w (.set 0 (.blob false [65]))), .at 7 0 (.r (.get 0)), .w (.lappm 7),
   .r (.get 10), .w (.mut 10), .r (.get 10), .w (.ltrunc 7 5), .r .range, .w (.set 10 (.list false [])),
   .in 5 (.w (.mut 0)), .r (.getter 6), .r (.getter 7), .at 7 0 (.r (.getter 0)), .in 11 (.r (.getter 0)), .r (.getter 9)]

example : ∀ op ∈ histA, Op.ok schemaA8 3 0 op = true ∧ op.usesCodec = false := by decide

example :
    OutsEq (Reflect.run schemaA8 0 stateA histA).2
      (SpecReflect.run schemaA8 0 (abs schemaA8 3 0 stateA) (histA.map (Op.abs schemaA8 3 0))).2 ∧
    abs schemaA8 3 0 (Reflect.run schemaA8 0 stateA histA).1
      = (SpecReflect.run schemaA8 0 (abs schemaA8 3 0 stateA) (histA.map (Op.abs schemaA8 3 0))).1 :=
  C08_history_refines schemaA8 3 0 stateA histA (by decide) (by decide)

example : (Reflect.step schemaA8 0 stateA (.r (.which 0))).2 = .which (some 9) := rfl
example : (Reflect.step schemaA8 0 stateA (.w (.set 8 (msgB [122])))).1.slot 9 = .none := rfl
example : (Reflect.step schemaA8 0 stateA (.r (.get 10))).2 = .listv false 0 := rfl
example : (Reflect.step schemaA8 0 stateA (.r (.mrange 6))).2
    = .keys [.blob false [97], .blob false [98]] := rfl
example : (Reflect.step schemaA8 0 stateA (.r .range)).2 = .fields [2, 5, 6, 7, 9] := rfl
-- the generated getters are ops of both machines (SPEC: `Get` rendered in getter tokens)
example : (Reflect.step schemaA8 0 stateA (.r (.getter 6))).2 = .gmap 2 := rfl
example : (SpecReflect.step schemaA8 0 (abs schemaA8 3 0 stateA) (.r (.getter 6))).2 = .gmap 2 := rfl
example : (Reflect.step schemaA8 0 stateA (.w (.set 10 (.list false [])))).2 = .panic := rfl
example : (SpecReflect.step schemaA8 0 (abs schemaA8 3 0 stateA) (.w (.set 10 (.list false [])))).2 = .panic := rfl
-- Clear of the inactive member leaves ONEOF_STRING set (the fixed template)
example : Reflect.step schemaA8 0 stateA (.w (.clear 8)) = (stateA, .ok) :=
  C08_clear_inactive_member_noop schemaA8 0 _ _ 8 0 _ rfl rfl rfl

-- the codec ops on this state: the hypotheses of `C08_history_refines_all` hold …
unseal utf8Valid in
theorem stateA_utf8 : utf8OK schemaA8 3 0 stateA = true := by decide

/-- `histA` extended with codec ops at the root, in a nested message, in a map value and on an unset member -/
def histA' : List Op :=
  histA ++ [.r .size, .r .enc, .in 5 (.r .enc), .mv 6 (.blob false [97]) (.r .size), .in 11 (.r .enc),
    .w (.set 3 (.blob true [195, 169])), .r .enc]

example : ∀ op ∈ histA', Op.ok schemaA8 3 0 op = true := by decide

unseal utf8Valid in
theorem histA'_utf8 : ∀ op ∈ histA', Op.utf8 schemaA8 3 0 op = true := by decide

example :
    OutsEq (Reflect.run schemaA8 0 stateA histA').2
      (SpecReflect.run schemaA8 0 (abs schemaA8 3 0 stateA) (histA'.map (Op.abs schemaA8 3 0))).2 ∧
    abs schemaA8 3 0 (Reflect.run schemaA8 0 stateA histA').1
      = (SpecReflect.run schemaA8 0 (abs schemaA8 3 0 stateA) (histA'.map (Op.abs schemaA8 3 0))).1 :=
  C08_history_refines_all schemaA8 (by decide) 3 0 stateA histA' (by decide) (by decide) stateA_utf8
    (fun op h => ⟨by revert op; decide, histA'_utf8 op h⟩)

-- … and the UTF-8 hypothesis cannot be dropped: with an invalid string the generated marshaller emits the
-- bytes while the reference one fails
example : ∃ bs, (Reflect.step schemaA8 1 (msgB [255]) (.r .enc)).2 = .enc (.ok bs) := by
  have h := (marshal_ok (S := schemaA8) (by decide) Reflect.mopts (fun kk es => sortEntries_perm kk es)
    (fuel := (msgB [255]).depth + 1) (i := 1) (v := msgB [255]) (by decide)).1
  simp only [step_read, Reflect.read, h]
  exact ⟨_, rfl⟩

section
unseal utf8Valid
example : (SpecReflect.step schemaA8 1 (abs schemaA8 1 1 (msgB [255])) (.r .enc)).2 = .enc (.err .utf8) := rfl
end

end Pulsar

#print axioms Pulsar.C08_step_refines
#print axioms Pulsar.C08_step_state
#print axioms Pulsar.C08_step_preserves_wf
#print axioms Pulsar.C08_history_refines
#print axioms Pulsar.C08_oneof_at_most_one
#print axioms Pulsar.C08_set_member_replaces
#print axioms Pulsar.C08_clear_inactive_member_noop
#print axioms Pulsar.C08_range_exactly_populated_once
#print axioms Pulsar.C08_mutable_view_writes_through_list
#print axioms Pulsar.C08_mutable_view_writes_through_map
#print axioms Pulsar.C08_mutable_view_writes_through
#print axioms Pulsar.C08_codec_ops_refine
#print axioms Pulsar.C08_step_refines_codec
#print axioms Pulsar.C08_step_refines_all
#print axioms Pulsar.C08_step_preserves_utf8
#print axioms Pulsar.C08_history_refines_all
