/-
  C12 — Generator is total on proto3 schemas; unknown features are an error; proto2 files and files
  that were not requested produce no output; reserved Go names are rewritten.

  The decision logic of the plugin (model: `Pulsar.Gen`). "The emitted text is Go that compiles" is not
  a Lean statement; it is reached by running the plugin (DESIGN §3 C12, partial).
-/
import Pulsar.Proofs.GenFeatures
namespace Pulsar.Gen
open Pulsar

/-! ### feature names -/

/-- A name that is neither registered nor "all" makes `findFeatures` (hence `NewGenerator`, hence the
    plugin) answer with an error — wherever it stands in the list (also behind an "all"). -/
theorem C12_unknown_feature_is_error (reg : List (String × Bool)) (pre post : List String) (n : String)
    (o : List (String × Bool) → List (String × Bool))
    (hn : n ≠ "all") (hl : reg.lookup n = none) :
    ∃ e, findFeatures reg (pre ++ n :: post) o = .error e := by
  obtain ⟨e, he⟩ := collect_unknown reg n post hn hl pre false []
  exact ⟨e, by simp [findFeatures, he]⟩

/-- the same for the features the plugin registers: anything but "all", "fast", "protoc" -/
theorem C12_unknown_feature_is_error_registered (pre post : List String) (n : String)
    (o : List (String × Bool) → List (String × Bool))
    (hn : n ∉ ["all", "fast", "protoc"]) :
    ∃ e, findFeatures registered (pre ++ n :: post) o = .error e := by
  simp only [List.mem_cons, List.not_mem_nil, or_false, not_or] at hn
  exact C12_unknown_feature_is_error registered pre post n o hn.1
    (by simp [registered, List.lookup, beq_eq_false_iff_ne.2 hn.2.1, beq_eq_false_iff_ne.2 hn.2.2])

/-- The error names the first offending feature when it is the only one. -/
theorem C12_unknown_feature_named (n : String) (o : List (String × Bool) → List (String × Bool))
    (hn : n ≠ "all") (hl : registered.lookup n = none) :
    findFeatures registered [n] o = .error n := by
  simp [findFeatures, collect, hn, hl]

/-- Requests made of registered names (and "all") are served. -/
theorem C12_known_features_ok (reg : List (String × Bool)) (names : List String)
    (o : List (String × Bool) → List (String × Bool))
    (h : ∀ n ∈ names, n = "all" ∨ (reg.lookup n).isSome = true) :
    ∃ fs, findFeatures reg names o = .ok fs := by
  obtain ⟨r, hr, _⟩ := collect_known reg names false [] h
  exact ⟨sortByName (o r), by simp [findFeatures, hr]⟩

/-- … and without "all", exactly the requested features run. -/
theorem C12_selected_are_requested (reg : List (String × Bool)) (names : List String)
    (o : List (String × Bool) → List (String × Bool)) (ho : ∀ l, (o l).Perm l)
    (fs : List (String × Bool)) (hall : "all" ∉ names) (h : findFeatures reg names o = .ok fs) :
    ∀ k, k ∈ featureNames fs ↔ k ∈ names := by
  intro k
  obtain ⟨r, hc, rfl⟩ := findFeatures_ok h
  have hp : (featureNames (sortByName (o r))).Perm (featureNames r) :=
    ((sortByName_perm _).trans (ho r)).map _
  rw [hp.mem_iff, collect_mem reg names [] r hall hc k]
  simp [featureNames]

/-- "all" selects every registered feature — when the names that follow it are known as well (they
    are validated like any other name). -/
theorem C12_all_selects_registered (ns : List String) (o : List (String × Bool) → List (String × Bool))
    (h : ∀ n ∈ ns, n = "all" ∨ (registered.lookup n).isSome = true) :
    findFeatures registered ("all" :: ns) o = .ok (sortByName (o registered)) :=
  findFeatures_all registered ("all" :: ns) o
    (fun n hn => (List.mem_cons.1 hn).elim Or.inl (h n)) List.mem_cons_self

/-- Names that follow "all" are validated too: `features=all+nosuch` is an error like `features=nosuch+all`
    and `features=fast+nosuch`. -/
theorem C12_unknown_after_all_is_error :
    ∃ e, findFeatures registered (parseFeatures (some "all+nosuch")) id = .error e := ⟨"nosuch", rfl⟩

/-- … while "all" together with registered names is served and selects every registered feature. -/
theorem C12_all_with_known_names_ok :
    findFeatures registered (parseFeatures (some "all+fast")) id = .ok [("fast", true), ("protoc", false)] := rfl

/-! ### which files come back -/

/-- the per-file decision in closed form -/
theorem C12_emitted_iff (feats : List (String × Bool)) (seen : List (String × Nat)) (lp : List String)
    (f : FileIn) : (generateFile feats seen lp f).1.emitted = (f.requested && f.proto3 && emits feats) :=
  generateFile_emitted feats seen lp f

theorem C12_proto2_file_produces_nothing (feats : List (String × Bool)) (seen : List (String × Nat))
    (lp : List String) (f : FileIn) (h : f.proto3 = false) :
    generateFile feats seen lp f = (⟨false, [], []⟩, seen) := by
  unfold generateFile
  cases f.requested <;> simp [h]

theorem C12_unrequested_file_produces_nothing (feats : List (String × Bool)) (seen : List (String × Nat))
    (lp : List String) (f : FileIn) (h : f.requested = false) :
    generateFile feats seen lp f = (⟨false, [], []⟩, seen) := by
  unfold generateFile
  simp [h]

/-- in a whole run: every emitted file was requested and is proto3 -/
theorem C12_only_requested_proto3_emitted (flag : Option String) (files : List FileIn)
    (o : List (String × Bool) → List (String × Bool)) (outs : List FileOut)
    (h : runPlugin flag files o = .ok outs) :
    outs.length = files.length ∧
    ∀ (i : Nat) (out : FileOut) (f : FileIn), outs[i]? = some out → files[i]? = some f → out.emitted = true →
      f.requested = true ∧ f.proto3 = true := by
  unfold runPlugin at h
  split at h
  · cases h
  · rename_i feats _
    injection h with h
    subst h
    refine ⟨by simpa using congrArg List.length (generateAll_decisions feats (localPackages files) files []),
      fun i out f ho hf he => ?_⟩
    obtain ⟨f', hf', hout⟩ := generateAll_getElem? ho
    rw [hf] at hf'
    cases hf'
    rw [he] at hout
    have : (f.requested = true ∧ f.proto3 = true) ∧ emits feats = true := by simpa using hout.symm
    exact this.1

/-- "protoc" alone: its `GenerateFile` answers `pg.once` = false, every file is `Skip()`ped. -/
theorem C12_protoc_alone_emits_nothing (seen : List (String × Nat)) (lp : List String) (f : FileIn) :
    (generateFile [("protoc", false)] seen lp f).1.emitted = false := by
  rw [generateFile_emitted]; simp [emits]

theorem C12_protoc_alone_emits_nothing_run (files : List FileIn)
    (o : List (String × Bool) → List (String × Bool)) (ho : ∀ l, (o l).Perm l) :
    ∃ outs, runPlugin (some "protoc") files o = .ok outs ∧ ∀ out ∈ outs, out.emitted = false := by
  have hf : findFeatures registered (parseFeatures (some "protoc")) o = .ok (sortByName (o [("protoc", false)])) := rfl
  refine ⟨_, by simp only [runPlugin, hf]; rfl, fun out hout => ?_⟩
  obtain ⟨i, hi⟩ := List.getElem?_of_mem hout
  obtain ⟨f, _, hem⟩ := generateAll_getElem? hi
  rw [hem, emits, ((sortByName_perm _).trans (ho _)).any_eq]
  simp

/-- as soon as "fast" is among the features, every requested proto3 file is emitted -/
theorem C12_fast_emits (feats : List (String × Bool)) (seen : List (String × Nat)) (lp : List String)
    (f : FileIn) (hr : f.requested = true) (h3 : f.proto3 = true) (hfast : ("fast", true) ∈ feats) :
    (generateFile feats seen lp f).1.emitted = true := by
  rw [generateFile_emitted, hr, h3]
  simp only [Bool.and_self, Bool.true_and, emits, List.any_eq_true]
  exact ⟨_, hfast, rfl⟩

/-! ### reserved Go names -/

theorem C12_reserved_names_rewritten (n : String) : goFieldName n ∉ Extracted.reservedFieldNames :=
  rewriteName_not_reserved n

theorem C12_reserved_oneof_names_rewritten (n : String) : goOneofName n ∉ Extracted.reservedFieldNames :=
  rewriteName_not_reserved n

/-- names that are not reserved are left alone; the rewrite is idempotent (a second pass over an
    already processed message would change nothing) -/
theorem C12_unreserved_names_kept (n : String) (h : n ∉ Extracted.reservedFieldNames) : goFieldName n = n :=
  rewriteName_of_not_mem n h

theorem C12_rewrite_idempotent (n : String) : goFieldName (goFieldName n) = goFieldName n :=
  rewriteName_of_not_mem _ (rewriteName_not_reserved n)

/-- FINDING (statement false): the rewrite is NOT injective. protogen hands the plugin distinct Go names
    (`type` ↦ `Type`, `type_` ↦ `Type_`), the rewrite maps both to `Type_`: a message with the fields
    `type` and `type_` gets two struct fields (and two getters) of the same name. -/
theorem C12_rewrite_not_injective : ¬ (∀ a b : String, goFieldName a = goFieldName b → a = b) := by
  intro h
  have := h "Type" "Type_" (by decide)
  exact absurd this (by decide)

/-! ### the behavioural model covers every kind -/

/-- Lean definitions are total, so the per-field functions of `Pulsar.Encode`/`Pulsar.Decode` answer on
    every kind × shape by construction (there is no "unsupported" outcome in `Res`). What can be
    *stated*: the extracted wire-type table has a legal entry for every kind and agrees with the
    wire-format specification, packable/blob is a partition of the kinds, and the generator's
    `kindToGoType` table (map keys) lists every kind. -/
theorem C12_model_total (k : Kind) :
    Extracted.wireType k ∈ [0, 1, 2, 5] ∧ Extracted.wireType k = k.specWireType ∧
    (k.packable = !k.isBlob) ∧ (k.isBlob = true ↔ Extracted.wireType k = 2) ∧
    k ∈ Extracted.mapKeyKinds := by
  cases k <;> decide

-- non-vacuity
example : parseFeatures (some "protoc+fast") = ["protoc", "fast"] := by decide
example : parseFeatures none = ["all"] := by decide
example : parseFeatures (some "") = [""] := by decide
example : findFeatures registered (parseFeatures (some "protoc+fast")) id = .ok [("fast", true), ("protoc", false)] := rfl
example : findFeatures registered (parseFeatures (some "protoc+fast")) List.reverse = .ok [("fast", true), ("protoc", false)] := rfl
example : findFeatures registered (parseFeatures (some "fast+nosuch")) id = .error "nosuch" := rfl
example : findFeatures registered (parseFeatures (some "all")) id = .ok [("fast", true), ("protoc", false)] := rfl
example : findFeatures registered (parseFeatures (some "fast+fast")) id = .ok [("fast", true)] := rfl
example : findFeatures registered (parseFeatures (some "")) id = .error "" := rfl
example : findFeatures registered (parseFeatures (some "all+nosuch")) id = .error "nosuch" := rfl
example : findFeatures registered (parseFeatures (some "nosuch+all")) id = .error "nosuch" := rfl
example : findFeatures registered (parseFeatures (some "fast+all")) id = .ok [("fast", true), ("protoc", false)] := rfl
example : findFeatures registered (parseFeatures (some "all+all")) id = .ok [("fast", true), ("protoc", false)] := rfl
example : (generateFile [("fast", true), ("protoc", false)] [] [] ⟨true, true, "p", "pkg"⟩).1 = ⟨true, ["fast", "protoc"], [0]⟩ := by decide
example : (generateFile [("fast", true), ("protoc", false)] [] [] ⟨true, false, "p", "pkg"⟩).1.emitted = false := by decide
example : (generateFile [("protoc", false)] [] [] ⟨true, true, "p", "pkg"⟩).1.emitted = false := by decide
example : goFieldName "Type" = "Type_" := by decide
example : goFieldName "ProtoReflect" = "ProtoReflect_" := by decide
example : goOneofName "Descriptor" = "Descriptor_" := by decide
example : goFieldName "Foo" = "Foo" := by decide
example : "Type" ∈ Extracted.reservedFieldNames := by decide

end Pulsar.Gen

#print axioms Pulsar.Gen.C12_unknown_feature_is_error
#print axioms Pulsar.Gen.C12_unknown_feature_is_error_registered
#print axioms Pulsar.Gen.C12_unknown_feature_named
#print axioms Pulsar.Gen.C12_known_features_ok
#print axioms Pulsar.Gen.C12_selected_are_requested
#print axioms Pulsar.Gen.C12_all_selects_registered
#print axioms Pulsar.Gen.C12_unknown_after_all_is_error
#print axioms Pulsar.Gen.C12_all_with_known_names_ok
#print axioms Pulsar.Gen.C12_emitted_iff
#print axioms Pulsar.Gen.C12_proto2_file_produces_nothing
#print axioms Pulsar.Gen.C12_unrequested_file_produces_nothing
#print axioms Pulsar.Gen.C12_only_requested_proto3_emitted
#print axioms Pulsar.Gen.C12_protoc_alone_emits_nothing
#print axioms Pulsar.Gen.C12_protoc_alone_emits_nothing_run
#print axioms Pulsar.Gen.C12_fast_emits
#print axioms Pulsar.Gen.C12_reserved_names_rewritten
#print axioms Pulsar.Gen.C12_reserved_oneof_names_rewritten
#print axioms Pulsar.Gen.C12_unreserved_names_kept
#print axioms Pulsar.Gen.C12_rewrite_idempotent
#print axioms Pulsar.Gen.C12_rewrite_not_injective
#print axioms Pulsar.Gen.C12_model_total
