/-
  C18 at the draw level — `rapidproto.MessageGenerator` as a deterministic function of the values rapid
  hands out (RAPID_PROTOCOL.md; model: Pulsar/Rapidproto.lean `setFields` / `generate`, the function the
  driver commands `rgen` replay). rapid is a black box: every theorem quantifies over ALL draw sequences,
  all schemas, all option sets, all starting depths. Assumed of rapid where a theorem says so: draws in the
  range of their generators (`Ev.inRange`; for `String()` this is valid UTF-8); of the harness: mapper values
  that are well-formed themselves (`MapperOK` / `MapperTyped`; trivially true without `FieldMaps`).
-/
import Pulsar.Proofs.RapidWF
import Pulsar.Proofs.RapidContents
import Pulsar.Proofs.RapidDraws
import Pulsar.Proofs.RapidOpts
import Pulsar.Proofs.ValDepth
import Pulsar.Properties.C01
namespace Pulsar.Rapidproto
open Pulsar

/-! ## Totality -/

/-- `setFields` at any depth, on any message value, with the fuel `depthLimit + 2 - depth`: a success
    consumed a prefix of the draws, left to right — the trace lists them in order with the generator
    that consumed each, the rest is a suffix; a `stuck` is a draw that is missing or of the wrong type
    (never `fuel`, never `truncate`: the loop index passed to `Truncate` is always within the list),
    at a position inside the sequence. -/
theorem C18_draws_total (S : Schema) (o : GenOpts) (E : List Int) (depth i : Nat) (v : Val) (ds : List Draw) :
    match setFields S o E (fuelFor depth) depth i v ds with
    | .ok _ rest tr => ds = tr.map Ev.draw ++ rest
    | .stuck p w => (w = .wrongType ∨ w = .missing) ∧ p ≤ ds.length := by
  have := rp_fine_setFields S o E (fuelFor depth) depth i v ds (rp_fuelFor_ge depth)
  cases h : setFields S o E (fuelFor depth) depth i v ds <;> simp only [h, FineW, Benign] at this ⊢
  · exact this.1
  · exact this

/-- top level: a success consumed exactly all draws; otherwise a draw is missing, of the wrong type, or
    left over. -/
theorem C18_draws_total_generate (S : Schema) (o : GenOpts) (E : List Int) (i : Nat) (ds : List Draw) :
    match generate S o E i ds with
    | .ok _ rest tr => rest = [] ∧ ds = tr.map Ev.draw
    | .stuck p w => (w = .wrongType ∨ w = .missing ∨ w = .leftover) ∧ p ≤ ds.length := by
  have := rp_fine_generate S o E i ds
  cases h : generate S o E i ds <;> simp only [h, FineW, Benign, or_assoc] at this ⊢
  · obtain ⟨rfl, -⟩ := rp_generate_ok h
    exact ⟨rfl, by simpa using this.1⟩
  · exact this

/-! ## Well-formedness -/

/-- `setFields` on a well-formed message, all consumed draws in range: the message stays well-formed.
    `0 ∈ E`: the enum declares the number 0 (proto3 requires it of the first value); it is what the enum
    fields of the empty messages left behind by the Truncate quirk hold. -/
theorem C18_draws_wellformed_setFields (S : Schema) (o : GenOpts) (E : List Int) (h0 : (0 : Int) ∈ E)
    (hmap : MapperOK E o) (depth i : Nat) (v0 : Val) (ds : List Draw) (r : Bool × Val) (rest : List Draw) (tr : List Ev)
    (h : setFields S o E (fuelFor depth) depth i v0 ds = .ok r rest tr)
    (hr : ∀ e ∈ tr, e.inRange = true)
    (hm : msgOK S false (fuelFor depth) i v0 = true) (hu : utf8OK S (fuelFor depth) i v0 = true)
    (he : enumsOK S E (fuelFor depth) i v0 = true) :
    msgOK S false (fuelFor depth) i r.2 = true ∧ utf8OK S (fuelFor depth) i r.2 = true ∧
      enumsOK S E (fuelFor depth) i r.2 = true := by
  exact ⟨rp_ok_setFields_fuelFor S o hmap.typed E depth i v0 ds hm r rest tr h (InRP.all tr),
    rp_utf8_setFields S o E hmap.utf8 _ _ depth i v0 ds hu r rest tr h hr,
    rp_enum_setFields S o E h0 hmap.enum _ _ depth i v0 ds he r rest tr h hr⟩

/-- The generated message is well-formed: `msgOK` (one slot per field, every scalar fits its kind, every
    oneof group holds at most one member, map keys distinct, no nil elements), every string is valid UTF-8
    and every enum field holds a declared number — provided every consumed draw is in the range of its
    generator (`Ev.inRange`: enum index < number of declared values, counts within [min,10], integers
    within their type, and `String()` draws valid UTF-8, which is an assumption about rapid). -/
theorem C18_draws_wellformed (S : Schema) (o : GenOpts) (E : List Int) (h0 : (0 : Int) ∈ E)
    (hmap : MapperOK E o) (i : Nat) (ds : List Draw) (v : Val) (rest : List Draw) (tr : List Ev)
    (h : generate S o E i ds = .ok v rest tr) (hr : ∀ e ∈ tr, e.inRange = true) :
    msgOK S false (fuelFor 0) i v = true ∧ utf8OK S (fuelFor 0) i v = true ∧
      enumsOK S E (fuelFor 0) i v = true ∧ unknownOK S (fuelFor 0) i v = true := by
  apply rp_generate_post h hr
  intro ds0 r rest' tr' h' hr'
  obtain ⟨hm, hu, he⟩ := C18_draws_wellformed_setFields S o E h0 hmap 0 i _ ds0 r rest' tr' h' hr'
    (msgOK_emptyMsg S false _ i) (utf8OK_emptyMsg S _ i) (rp_enumsOK_emptyMsg S h0 _ i)
  exact ⟨hm, hu, he, rp_unknown_setFields S o E _ _ 0 i _ ds0 (rp_unknownOK_emptyMsg S _ i) r rest' tr' h' hr'⟩

/-- `msgOK` alone needs no assumption on the draws: stored scalars are truncated to the field's width. -/
theorem C18_draws_msgOK (S : Schema) (o : GenOpts) (hmap : MapperTyped o) (E : List Int) (i : Nat) (ds : List Draw) (v : Val)
    (rest : List Draw) (tr : List Ev) (h : generate S o E i ds = .ok v rest tr) :
    msgOK S false (fuelFor 0) i v = true := by
  apply rp_generate_post h (InRP.all tr)
  exact fun ds0 => rp_ok_setFields_fuelFor S o hmap E 0 i (emptyMsg S i) ds0 (msgOK_emptyMsg S false _ i)

/-! ## Marshalling and round trip (composition with C01) -/

/-- A generated message marshals without error or panic, in either marshal mode — for ALL draws (no
    range or UTF-8 assumption: the generated marshaller does not validate strings). -/
theorem C18_draws_marshal_total (S : Schema) (hS : S.WF = true) (o : GenOpts) (hmap : MapperTyped o) (E : List Int)
    (i : Nat) (hi : i < S.msgs.length) (ds : List Draw) (v : Val) (rest : List Draw) (tr : List Ev)
    (h : generate S o E i ds = .ok v rest tr) (mo : MOpts) (hperm : ∀ es, (mo.perm es).Perm es) :
    ∃ bs, implMarshal S mo (fuelFor 0) i v = .ok bs :=
  C01_marshal_total S hS (fuelFor 0) i v mo hperm hi (C18_draws_msgOK S o hmap E i ds v rest tr h)

/-- A message generated from in-range draws marshals and unmarshals back to an equal message (every
    hypothesis of `C01_roundtrip` is discharged: well-typed, valid UTF-8, no unknown fields, depth ≤ 12). -/
theorem C18_draws_marshal_roundtrip (S : Schema) (hS : S.WF = true) (o : GenOpts) (E : List Int)
    (h0 : (0 : Int) ∈ E) (hmap : MapperOK E o) (i : Nat) (hi : i < S.msgs.length) (ds : List Draw) (v : Val)
    (rest : List Draw)
    (tr : List Ev) (h : generate S o E i ds = .ok v rest tr) (hr : ∀ e ∈ tr, e.inRange = true)
    (mo : MOpts) (hperm : ∀ es, (mo.perm es).Perm es) :
    ∃ bs w, implMarshal S mo (fuelFor 0) i v = .ok bs ∧
      (bs.length < 9223372036854775808 →
        implUnmarshal S {} i (emptyMsg S i) bs = .ok w ∧ Equiv S (fuelFor 0) i w v) := by
  obtain ⟨hm, hu, _, hk⟩ := C18_draws_wellformed S o E h0 hmap i ds v rest tr h hr
  exact C01_roundtrip S hS (fuelFor 0) i v mo hperm hi hm hu hk (by decide)

/-! ## Nesting depth -/

/-- The nesting depth of a generated message is at most `depthLimit + 2` = 12 (not `depthLimit + 1`: a
    message at depth `depthLimit` can keep elements created at depth `depthLimit + 1`, see the example). -/
theorem C18_draws_depth_bounded (S : Schema) (o : GenOpts) (hmap : MapperTyped o) (E : List Int) (i : Nat) (ds : List Draw) (v : Val)
    (rest : List Draw) (tr : List Ev) (h : generate S o E i ds = .ok v rest tr) :
    v.depth ≤ Extracted.depthLimit + 2 :=
  msgOK_depth_le S (fuelFor 0) i v (C18_draws_msgOK S o hmap E i ds v rest tr h)

/-- … and `setFields` at `depth` on a message of nesting ≤ `depthLimit + 2 - depth` keeps that bound. -/
theorem C18_draws_depth_bounded_setFields (S : Schema) (o : GenOpts) (hmap : MapperTyped o) (E : List Int) (depth i : Nat) (v0 : Val)
    (ds : List Draw) (r : Bool × Val) (rest : List Draw) (tr : List Ev)
    (h : setFields S o E (fuelFor depth) depth i v0 ds = .ok r rest tr)
    (hm : msgOK S false (fuelFor depth) i v0 = true) :
    r.2.depth ≤ Extracted.depthLimit + 2 - depth := by
  have := msgOK_depth_le S (fuelFor depth) i r.2
    (rp_ok_setFields_fuelFor S o hmap E depth i v0 ds hm r rest tr h (InRP.all tr))
  unfold fuelFor at this
  omega

namespace DrawsExample

/-- `message L { repeated L l = 1; }` -/
def listS : Schema := ⟨[⟨[⟨1, .message 0, .repeated false⟩]⟩]⟩

def one : Draw := .num (some 1) none none
def three : Draw := .num (some 3) none none

/-- ten levels of one-element lists, then a list of count 3 at depth 10 -/
def deepDraws : List Draw :=
  [.bool true, one, .bool true, one, .bool true, one, .bool true, one, .bool true, one,
   .bool true, one, .bool true, one, .bool true, one, .bool true, one, .bool true, one,
   .bool true, three]

def resultOf : R Val → Val | .ok v _ _ => v | .stuck _ _ => .none

end DrawsExample

open DrawsExample in
/-- The bound is attained. At depth 10 the three `setFields(elem, 11)` calls return false; `Truncate(0)`
    empties the list, `Truncate(1)` and `Truncate(2)` are no-ops (the loop index is the length), so two
    elements created at depth 11 stay: nesting depth 12. -/
example : (resultOf (generate listS {} [0] 0 deepDraws)).depth = Extracted.depthLimit + 2 := by decide

/-! ## The options

  `everywhere mp S fuel 0 i v`: `mp depth j m` holds for every message `m` of the generated tree (with the
  depth of the `setFields` call that filled it). The fuel `fuelFor 0 = 12` covers the whole tree
  (`C18_draws_depth_bounded`). -/

/-- `NoEmptyLists`, one `setFields` call at any depth, on an empty message or on a message that already
    satisfies the guarantee (the value `Map.Mutable` returns for a repeated key); what it says: next theorem -/
theorem C18_draws_noEmptyLists_setFields (S : Schema) (o : GenOpts) (E : List Int) (ho : o.noEmptyLists = true)
    (depth i : Nat) (v0 : Val) (ds : List Draw) (r : Bool × Val) (rest : List Draw) (tr : List Ev)
    (h : setFields S o E (fuelFor depth) depth i v0 ds = .ok r rest tr) (hr : ∀ e ∈ tr, e.inRange = true)
    (N : Nat) (hv0 : v0 = emptyMsg S i ∨ everywhere (nelLocal S o.disallowNil) S N depth i v0 = true) :
    everywhere (nelLocal S o.disallowNil) S N depth i r.2 = true :=
  rp_everywhere_setFields S o E (rp_mpTrue_any_ok S _) (rp_nel_MpStep S o E ho) _ N depth i v0 ds hv0 r rest tr h hr

/-- `NoEmptyLists` (counts drawn from `IntRange(1,10)`): in every message filled by a `setFields` call
    within the depth limit
    * every repeated SCALAR field has at least one element — always;
    * every repeated MESSAGE field has at least one element if `DisallowNilMessages` is set as well and the
      message is at depth < `depthLimit`.
    Nothing more is true: see the three remarks below. -/
theorem C18_draws_noEmptyLists (S : Schema) (o : GenOpts) (E : List Int) (ho : o.noEmptyLists = true)
    (i : Nat) (ds : List Draw) (v : Val) (rest : List Draw) (tr : List Ev)
    (h : generate S o E i ds = .ok v rest tr) (hr : ∀ e ∈ tr, e.inRange = true) :
    everywhere (nelLocal S o.disallowNil) S (fuelFor 0) 0 i v = true := by
  apply rp_generate_post h hr
  intro ds0 r rest' tr' h' hr'
  exact C18_draws_noEmptyLists_setFields S o E ho 0 i _ ds0 r rest' tr' h' hr' _ (Or.inl rfl)

/-- `DisallowNilMessages`, for ALL draw sequences, one `setFields` call at any depth -/
theorem C18_draws_disallowNil_all_draws_setFields (S : Schema) (o : GenOpts) (E : List Int)
    (ho : o.disallowNil = true) (depth i : Nat) (v0 : Val) (ds : List Draw) (r : Bool × Val) (rest : List Draw)
    (tr : List Ev) (h : setFields S o E (fuelFor depth) depth i v0 ds = .ok r rest tr)
    (N : Nat) (hv0 : v0 = emptyMsg S i ∨ everywhere (nonilLocal S) S N depth i v0 = true) :
    everywhere (nonilLocal S) S N depth i r.2 = true :=
  rp_everywhere_setFields S o E (rp_mpTrue_any_ok S _) (rp_nonil_MpStep S o E ho) _ N depth i v0 ds hv0 r rest tr h
    (InRP.all tr)

/-- `DisallowNilMessages`, for ALL draw sequences: in every message filled by a `setFields` call at depth <
    `depthLimit`, every singular message field is present. -/
theorem C18_draws_disallowNil_all_draws (S : Schema) (o : GenOpts) (E : List Int) (ho : o.disallowNil = true)
    (i : Nat) (ds : List Draw) (v : Val) (rest : List Draw) (tr : List Ev)
    (h : generate S o E i ds = .ok v rest tr) :
    everywhere (nonilLocal S) S (fuelFor 0) 0 i v = true := by
  apply rp_generate_post h (InRP.all tr)
  intro ds0 r rest' tr' h' _
  exact C18_draws_disallowNil_all_draws_setFields S o E ho 0 i _ ds0 r rest' tr' h' _ (Or.inl rfl)

/-- `DisallowNilMessages`: in every message filled by a `setFields` call at depth < `depthLimit`, every
    singular message field is present. (At depth = `depthLimit` every one of them is nil: remark below.)
    The assumption `hr` on the draws is not needed: `C18_draws_disallowNil_all_draws`. -/
theorem C18_draws_disallowNil (S : Schema) (o : GenOpts) (E : List Int) (ho : o.disallowNil = true)
    (i : Nat) (ds : List Draw) (v : Val) (rest : List Draw) (tr : List Ev)
    (h : generate S o E i ds = .ok v rest tr) (hr : ∀ e ∈ tr, e.inRange = true) :
    everywhere (nonilLocal S) S (fuelFor 0) 0 i v = true :=
  C18_draws_disallowNil_all_draws S o E ho i ds v rest tr h

theorem C18_draws_disallowNil_setFields (S : Schema) (o : GenOpts) (E : List Int) (ho : o.disallowNil = true)
    (depth i : Nat) (v0 : Val) (ds : List Draw) (r : Bool × Val) (rest : List Draw) (tr : List Ev)
    (h : setFields S o E (fuelFor depth) depth i v0 ds = .ok r rest tr) (hr : ∀ e ∈ tr, e.inRange = true)
    (N : Nat) (hv0 : v0 = emptyMsg S i ∨ everywhere (nonilLocal S) S N depth i v0 = true) :
    everywhere (nonilLocal S) S N depth i r.2 = true :=
  C18_draws_disallowNil_all_draws_setFields S o E ho depth i v0 ds r rest tr h N hv0

/-! ### What the options do NOT guarantee (the natural statements are false) -/

/-- the natural reading of `NoEmptyLists`: within the depth limit no repeated field is empty -/
def naiveNoEmptyLists (S : Schema) (depth i : Nat) (m : Val) : Bool :=
  decide (depth > Extracted.depthLimit) ||
    ((S.msg i).fields.zip m.slots).all (fun p =>
      match p.1.shape with | .repeated _ => decide (1 ≤ p.2.elems.length) | _ => true)

/-- the natural reading of `DisallowNilMessages`: within the depth limit no singular message field is nil -/
def naiveDisallowNil (S : Schema) (depth i : Nat) (m : Val) : Bool :=
  decide (depth > Extracted.depthLimit) ||
    ((S.msg i).fields.zip m.slots).all (fun p => presentField p.1 p.2)

namespace DrawsExample

/-- ten levels of one-element lists, then a list of count 1 at depth 10 -/
def deepDrawsOne : List Draw :=
  [.bool true, one, .bool true, one, .bool true, one, .bool true, one, .bool true, one,
   .bool true, one, .bool true, one, .bool true, one, .bool true, one, .bool true, one,
   .bool true, one]

/-- `message N { N n = 1; }` -/
def nestS : Schema := ⟨[⟨[⟨1, .message 0, .singular⟩]⟩]⟩

/-- `message Q { repeated Q q = 1; repeated int32 x = 2; }` -/
def leftS : Schema := ⟨[⟨[⟨1, .message 0, .repeated false⟩, ⟨2, .scalar .int32, .repeated false⟩]⟩]⟩

/-- levels 0–9: `q` gets one element, `x` gets one element; level 10: `q` count 2 (one element survives the
    Truncate quirk), `x` one element. Draw order per level: gen-q, count, <element…>, gen-x, count, value. -/
def leftDraws : List Draw :=
  [.bool true, one, .bool true, one, .bool true, one, .bool true, one, .bool true, one,
   .bool true, one, .bool true, one, .bool true, one, .bool true, one, .bool true, one,
   .bool true, .num (some 2) none none, .bool true, one, one,
   .bool true, one, one, .bool true, one, one, .bool true, one, one, .bool true, one, one, .bool true, one, one,
   .bool true, one, one, .bool true, one, one, .bool true, one, one, .bool true, one, one, .bool true, one, one]

end DrawsExample

open DrawsExample in
/-- Remark 1. A repeated MESSAGE field is skipped when its `gen-` draw is false (it is of `MessageKind`), so
    it stays empty in spite of `NoEmptyLists` (all draws in range). -/
theorem C18_remark_noEmptyLists_skipped :
    ∃ v tr, generate listS { noEmptyLists := true } [0] 0 [.bool false] = .ok v [] tr ∧
      (∀ e ∈ tr, e.inRange = true) ∧ naiveNoEmptyLists listS 0 0 v = false :=
  ⟨_, _, rfl, by decide, by decide⟩

open DrawsExample in
/-- Remark 2. Even with `DisallowNilMessages` (nothing is skipped): at depth `depthLimit` a repeated message
    field with count 1 ends up empty — `setFields(elem, depthLimit+1)` returns false and `Truncate(0)` removes
    the element. -/
theorem C18_remark_noEmptyLists_at_limit :
    ∃ v tr, generate listS { noEmptyLists := true, disallowNil := true } [0] 0 deepDrawsOne = .ok v [] tr ∧
      (∀ e ∈ tr, e.inRange = true) ∧ everywhere (naiveNoEmptyLists listS) listS (fuelFor 0) 0 0 v = false :=
  ⟨_, _, rfl, by decide, by decide⟩

open DrawsExample in
/-- Remark 3. The elements the Truncate quirk leaves behind (count ≥ 2 at depth `depthLimit`) are empty
    messages created at depth `depthLimit + 1`: their repeated SCALAR fields are empty too. The guarantee of
    `C18_draws_noEmptyLists` (which stops at the limit) holds, the same predicate without the depth guard
    fails. -/
theorem C18_remark_noEmptyLists_leftover :
    ∃ v tr, generate leftS { noEmptyLists := true, disallowNil := true } [0] 0 leftDraws = .ok v [] tr ∧
      (∀ e ∈ tr, e.inRange = true) ∧
      everywhere (nelLocal leftS true) leftS (fuelFor 0) 0 0 v = true ∧
      everywhere (fun _ i m => ((leftS.msg i).fields.zip m.slots).all (fun p => nelField false 0 p.1 p.2))
        leftS (fuelFor 0) 0 0 v = false :=
  ⟨_, _, rfl, by decide, by decide, by decide⟩

open DrawsExample in
/-- Remark 4. With `DisallowNilMessages` a singular message field of a message at depth `depthLimit` is nil:
    `Mutable` creates it, `setFields(…, depthLimit+1)` returns false, `Clear` removes it. -/
theorem C18_remark_disallowNil_at_limit :
    ∃ v tr, generate nestS { disallowNil := true } [0] 0 (List.replicate 11 (.bool false)) = .ok v [] tr ∧
      (∀ e ∈ tr, e.inRange = true) ∧
      everywhere (nonilLocal nestS) nestS (fuelFor 0) 0 0 v = true ∧
      everywhere (naiveDisallowNil nestS) nestS (fuelFor 0) 0 0 v = false :=
  ⟨_, _, rfl, by decide, by decide, by decide⟩

namespace DrawsExample

/-- `message O { oneof o { int32 a = 1; O m = 2; } }` -/
def oneofS : Schema := ⟨[⟨[⟨1, .scalar .int32, .oneof 0⟩, ⟨2, .message 0, .oneof 0⟩]⟩]⟩

/-- levels 0–9: `a` ← 1, then `m` generated (replaces `a`); level 10: `a` ← 7, then `m` generated -/
def oneofDraws : List Draw :=
  (List.replicate 10 [.bool true, one, .bool true]).flatten ++ [.bool true, .num (some 7) none none, .bool true]

/-- the innermost message of a chain of `m` members -/
def innermost : Nat → Val → Val
  | 0, v => v
  | k+1, v => (match v.slot 1 with | .one x => innermost k x | _ => v)

end DrawsExample

open DrawsExample in
/-- Remark 5 (oneof at the depth limit). At depth `depthLimit` the scalar member `a` is set to 7, then the
    message member `m` is generated: `Mutable` replaces `a` by a new `m`, `setFields(m, depthLimit+1)` returns
    false and `Clear` removes `m` — the group ends up EMPTY although two members were generated: the value
    drawn for `a` is lost. -/
theorem C18_remark_oneof_emptied_at_limit :
    ∃ v tr, generate oneofS {} [0] 0 oneofDraws = .ok v [] tr ∧ (∀ e ∈ tr, e.inRange = true) ∧
      (innermost 10 v).slots = [.none, .none] :=
  ⟨_, _, rfl, by decide, rfl⟩

open DrawsExample in
/-- Remark 6 (oneof of scalars). The `gen-` draw of a scalar field is ignored, so every scalar oneof member is
    set in turn and the LAST one always wins: with `oneof { int32 a = 1; string b = 2; }` the draws
    `gen-a = true, a = 1, gen-b = false, b = "a"` yield `b`. (The loop reaches `Set(b, …)` for every draw sequence,
    so `a` never survives; only this instance is proved here.) -/
theorem C18_remark_oneof_scalar_last_wins :
    ∃ v tr, generate ⟨[⟨[⟨1, .scalar .int32, .oneof 0⟩, ⟨2, .scalar .string, .oneof 0⟩]⟩]⟩ {} [0] 0
        [.bool true, one, .bool false, .str [0x61]] = .ok v [] tr ∧
      v.slots = [.none, .one (.blob false [0x61])] :=
  ⟨_, _, rfl, rfl⟩

/-! ## `FieldMaps`

  `GenOpts.mapper k = some w`: the field mappers answer `w` for every scalar of kind `k`
  (`genScalarFieldValue` returns it without drawing). No assumption on the draws, none on the mapper. -/

/-- `FieldMaps`, one `setFields` call at any depth, on an empty message or on a message that already holds the
    mapper's values everywhere (the value `Map.Mutable` returns for a repeated key — with a mapped key kind
    that is every iteration after the first); what it says: next theorem -/
theorem C18_draws_mapper_honoured_setFields (S : Schema) (o : GenOpts) (E : List Int)
    (depth i : Nat) (v0 : Val) (ds : List Draw) (r : Bool × Val) (rest : List Draw) (tr : List Ev)
    (h : setFields S o E (fuelFor depth) depth i v0 ds = .ok r rest tr)
    (N : Nat) (hv0 : v0 = emptyMsg S i ∨ everywhere (mapLocal S o) S N depth i v0 = true) :
    everywhere (mapLocal S o) S N depth i r.2 = true :=
  rp_everywhere_setFields S o E (rp_map_MpOK S o) (rp_map_MpStep S o E) _ N depth i v0 ds hv0 r rest tr h
    (InRP.all tr)

/-- `FieldMaps` is honoured: in every message filled by a `setFields` call within the depth limit — for all
    schemas, option sets and draw sequences — every scalar position of a kind `k` with `o.mapper k = some w`
    holds exactly `w` (`mapLocal` / `mapField … true` / `mapVal`, read by `rp_mapVal_iff`): singular scalar
    fields (always set), the scalar member a oneof group holds, every list element, every map key and every
    scalar map value. Exception, as for the other options: the messages the Truncate quirk leaves behind
    (created at depth `depthLimit + 1`, never filled) hold zero values — `mapLocal` claims nothing there. -/
theorem C18_draws_mapper_honoured (S : Schema) (o : GenOpts) (E : List Int)
    (i : Nat) (ds : List Draw) (v : Val) (rest : List Draw) (tr : List Ev)
    (h : generate S o E i ds = .ok v rest tr) :
    everywhere (mapLocal S o) S (fuelFor 0) 0 i v = true := by
  apply rp_generate_post h (InRP.all tr)
  intro ds0 r rest' tr' h' _
  exact C18_draws_mapper_honoured_setFields S o E 0 i _ ds0 r rest' tr' h' _ (Or.inl rfl)

/-- how to read it, for the root message: a singular scalar field of a mapped kind IS the mapper's value
    (equality of values, not only `Val.beq`) -/
theorem C18_draws_mapper_honoured_root_singular (S : Schema) (o : GenOpts) (E : List Int)
    (i : Nat) (ds : List Draw) (v : Val) (rest : List Draw) (tr : List Ev)
    (h : generate S o E i ds = .ok v rest tr)
    (f : FieldDesc) (k : Kind) (w x : Val) (hs : f.shape = .singular) (he : f.elem = .scalar k)
    (hw : o.mapper k = some w) (hx : (f, x) ∈ (S.msg i).fields.zip v.slots) : x = w := by
  have := C18_draws_mapper_honoured S o E i ds v rest tr h
  have hf : fuelFor 0 = (Extracted.depthLimit + 1) + 1 := by unfold fuelFor; omega
  rw [hf] at this
  simp only [everywhere, Bool.and_eq_true] at this
  have hl := this.1
  simp only [mapLocal, Bool.or_eq_true, decide_eq_true_eq] at hl
  rcases hl with hl | hl
  · exact absurd hl (Nat.not_lt_zero _)
  · have := List.all_eq_true.1 hl _ hx
    simp only [mapField, hs, he, Bool.not_true, Bool.false_or] at this
    exact (rp_mapVal_iff o k x).1 this w hw

/-- `FieldMaps` consumes no draw: a successful generation consumed exactly the draws `ds` (the trace, in
    order), and every consumed draw is a `gen-`/`empty` flag, a count, or the scalar draw of a kind for which
    NO mapper answers (`Ev.unmapped`) — the trace contains no scalar draw event for a mapped kind. At the level
    of one scalar: `rp_genScalar_mapped` (`genScalar o E k ds = .ok w ds []`). -/
theorem C18_draws_mapper_consumes_no_draw (S : Schema) (o : GenOpts) (E : List Int)
    (i : Nat) (ds : List Draw) (v : Val) (rest : List Draw) (tr : List Ev)
    (h : generate S o E i ds = .ok v rest tr) :
    ds = tr.map Ev.draw ∧ ∀ e ∈ tr, e.unmapped o E := by
  have := rp_fine_generate S o E i ds
  rw [h, (rp_generate_ok h).1] at this
  simpa [FineW] using this

/-- the same for `setFields` at any depth, on any message -/
theorem C18_draws_mapper_consumes_no_draw_setFields (S : Schema) (o : GenOpts) (E : List Int)
    (depth i : Nat) (v0 : Val) (ds : List Draw) (r : Bool × Val) (rest : List Draw) (tr : List Ev)
    (h : setFields S o E (fuelFor depth) depth i v0 ds = .ok r rest tr) :
    ds = tr.map Ev.draw ++ rest ∧ ∀ e ∈ tr, e.unmapped o E := by
  have := rp_fine_setFields S o E (fuelFor depth) depth i v0 ds (rp_fuelFor_ge depth)
  rwa [h] at this

/-- … in terms of generators: when a mapper answers for every kind drawn from the rapid generator of kind
    `k` (`Int32()` serves int32, sint32 and sfixed32; `String()` only string), no draw of that generator
    occurs in the trace -/
theorem C18_draws_mapper_no_draw_of_gen (S : Schema) (o : GenOpts) (E : List Int)
    (i : Nat) (ds : List Draw) (v : Val) (rest : List Draw) (tr : List Ev)
    (h : generate S o E i ds = .ok v rest tr)
    (k : Kind) (hall : ∀ k', scalarGen E k' = scalarGen E k → o.mapper k' ≠ none) :
    ∀ e ∈ tr, e.gen ≠ scalarGen E k := by
  intro e he hg
  rcases (C18_draws_mapper_consumes_no_draw S o E i ds v rest tr h).2 e he with hf | ⟨m, hm⟩ | ⟨k', hn, hk'⟩
  · exact (rp_scalarGen_ne E k).1 (hg ▸ hf)
  · exact (rp_scalarGen_ne E k).2 m (hg ▸ hm)
  · exact hall k' (hk' ▸ hg) hn

/-- instance: a mapped string kind — the trace contains no `String()` draw -/
theorem C18_draws_mapper_no_string_draw (S : Schema) (o : GenOpts) (E : List Int)
    (i : Nat) (ds : List Draw) (v : Val) (rest : List Draw) (tr : List Ev)
    (h : generate S o E i ds = .ok v rest tr) (w : Val) (hw : o.mapper .string = some w) :
    ∀ e ∈ tr, e.gen ≠ .string := by
  refine C18_draws_mapper_no_draw_of_gen S o E i ds v rest tr h .string (fun k' hk' => ?_)
  cases k' <;> simp [scalarGen] at hk'
  simp [hw]

/-- a mapper answering for every kind: only flags and counts are drawn -/
theorem C18_draws_mapper_total_only_flags_and_counts (S : Schema) (o : GenOpts) (E : List Int)
    (i : Nat) (ds : List Draw) (v : Val) (rest : List Draw) (tr : List Ev)
    (h : generate S o E i ds = .ok v rest tr) (hall : ∀ k, o.mapper k ≠ none) :
    ∀ e ∈ tr, e.gen = .flag ∨ ∃ m, e.gen = .count m := by
  intro e he
  rcases (C18_draws_mapper_consumes_no_draw S o E i ds v rest tr h).2 e he with hf | hc | ⟨k, hn, _⟩
  · exact Or.inl hf
  · exact Or.inr hc
  · exact absurd hn (hall k)

/-! ## Non-vacuity: a schema with every field shape, both options, 34 draws in range -/

namespace DrawsExample

/-- message 0: int32, Msg1, repeated string, map<int32,Msg1>, oneof { enum, Msg1 };
    message 1: bool, repeated bytes -/
def exS : Schema := ⟨[
  ⟨[⟨1, .scalar .int32, .singular⟩, ⟨2, .message 1, .singular⟩, ⟨3, .scalar .string, .repeated false⟩,
    ⟨4, .message 1, .map .int32⟩, ⟨5, .scalar .enum, .oneof 0⟩, ⟨6, .message 1, .oneof 0⟩]⟩,
  ⟨[⟨1, .scalar .bool, .singular⟩, ⟨2, .scalar .bytes, .repeated false⟩]⟩]⟩

def exO : GenOpts := { noEmptyLists := true, disallowNil := true }
def exE : List Int := [0, 4, 5]
def n (i : Int) : Draw := .num (some i) none none

def exDraws : List Draw :=
  [.bool true, n (-5),                                                         -- int32
   .bool false, .bool true, .bool true, .bool true, n 1, .bytes [0],           -- Msg1 (gen- false, DisallowNil)
   .bool true, n 2, .str [0x61], .str [0xc3, 0xa9],                            -- repeated string
   .bool true, n 2, n 7, .bool false, .bool false, .bool true, n 1, .bytes [], -- map: key 7 …
                    n 7, .bool true, .bool true, .bool true, n 1, .bytes [255], --      … key 7 again: merged
   .bool true, n 1,                                                            -- enum member (index 1 → 4)
   .bool true, .bool true, .bool false, .bool true, n 1, .bytes [1]]           -- message member replaces it

theorem exS_wf : exS.WF = true := by decide

theorem ex_generates : ∃ v tr, generate exS exO exE 0 exDraws = .ok v [] tr ∧ (∀ e ∈ tr, e.inRange = true) :=
  ⟨_, _, rfl, by decide +kernel⟩

end DrawsExample

open DrawsExample in
example : ∃ v, msgOK exS false (fuelFor 0) 0 v = true ∧ utf8OK exS (fuelFor 0) 0 v = true ∧
    enumsOK exS exE (fuelFor 0) 0 v = true ∧ unknownOK exS (fuelFor 0) 0 v = true := by
  obtain ⟨v, tr, h, hr⟩ := ex_generates
  exact ⟨v, C18_draws_wellformed exS exO exE (by decide) (rp_mapperOK_none _ _ rfl) 0 exDraws v [] tr h hr⟩

open DrawsExample in
example : ∃ v bs w, implMarshal exS ⟨true, id⟩ (fuelFor 0) 0 v = .ok bs ∧
    (bs.length < 9223372036854775808 →
      implUnmarshal exS {} 0 (emptyMsg exS 0) bs = .ok w ∧ Equiv exS (fuelFor 0) 0 w v) := by
  obtain ⟨v, tr, h, hr⟩ := ex_generates
  obtain ⟨bs, w, hb⟩ := C18_draws_marshal_roundtrip exS exS_wf exO exE (by decide) (rp_mapperOK_none _ _ rfl) 0 (by decide) exDraws v [] tr
    h hr ⟨true, id⟩ (fun es => List.Perm.refl es)
  exact ⟨v, bs, w, hb⟩

open DrawsExample in
example : ∃ v, everywhere (nelLocal exS true) exS (fuelFor 0) 0 0 v = true ∧
    everywhere (nonilLocal exS) exS (fuelFor 0) 0 0 v = true := by
  obtain ⟨v, tr, h, hr⟩ := ex_generates
  exact ⟨v, C18_draws_noEmptyLists exS exO exE rfl 0 exDraws v [] tr h hr,
    C18_draws_disallowNil exS exO exE rfl 0 exDraws v [] tr h hr⟩

open DrawsExample in
/-- totality on a truncated draw sequence: `stuck` for a missing draw at the end of the sequence -/
example : generate exS exO exE 0 (exDraws.take 20) = .stuck 0 .missing := rfl

open DrawsExample in
/-- … and for a draw of the wrong type (position 1: 33 of the 34 draws were still unconsumed) -/
example : generate exS exO exE 0 (.bool true :: .str [] :: exDraws.drop 2) = .stuck 33 .wrongType := rfl

/-! ## Non-vacuity of the `FieldMaps` theorems: string ↦ "m", enum ↦ 4; 19 draws -/

namespace DrawsExample

/-- message 0: string, repeated string, map<string,int32>, map<string,Msg1>, oneof { int32, string }, enum;
    message 1: repeated int32 -/
def mapS : Schema := ⟨[
  ⟨[⟨1, .scalar .string, .singular⟩, ⟨2, .scalar .string, .repeated false⟩, ⟨3, .scalar .int32, .map .string⟩,
    ⟨4, .message 1, .map .string⟩, ⟨5, .scalar .int32, .oneof 0⟩, ⟨6, .scalar .string, .oneof 0⟩,
    ⟨7, .scalar .enum, .singular⟩]⟩,
  ⟨[⟨1, .scalar .int32, .repeated false⟩]⟩]⟩

def mVal : Val := .blob false [0x6d]

def mapO : GenOpts :=
  { mapper := fun k => match k with | .string => some mVal | .enum => some (.bits 4) | _ => none }

def mapDraws : List Draw :=
  [.bool true,                                                   -- string: only the gen- draw
   .bool true, n 2,                                              -- repeated string: only the count
   .bool true, n 2, n 1, n 2,                                    -- map<string,int32>: 2 values, both at key "m"
   .bool true, n 2, .bool true, n 1, n 7, .bool true, n 1, n 8,  -- map<string,Msg1>: the 2nd re-fills the 1st
   .bool true, n 1,                                              -- oneof: int32 member drawn …
   .bool false,                                                  -- … string member replaces it, no draw
   .bool true]                                                   -- enum: only the gen- draw

def mapResult : Val :=
  .msg [mVal, .list false [mVal, mVal], .map false [.entry mVal (.bits 2)],
        .map false [.entry mVal (.msg [.list false [.bits 7, .bits 8]] [])],
        .none, .one mVal, .bits 4] []

theorem mapO_ok : MapperOK exE mapO := by
  refine ⟨fun k w h => ?_, fun w h => ?_, fun w h => ?_⟩
  · cases k <;> simp [mapO] at h <;> subst h <;> decide
  · simp [mapO] at h; subst h; simp [mVal, Val.getBlob, utf8Valid]
  · simp [mapO] at h; subst h; decide

theorem map_generates : ∃ tr, generate mapS mapO exE 0 mapDraws = .ok mapResult [] tr ∧
    (∀ e ∈ tr, e.inRange = true) :=
  ⟨_, rfl, by decide +kernel⟩

end DrawsExample

open DrawsExample in
/-- the mapper is honoured everywhere, no `String()` draw and no enum index draw was consumed, and the
    message is well-formed (the mapper's values are) -/
example : everywhere (mapLocal mapS mapO) mapS (fuelFor 0) 0 0 mapResult = true ∧
    (∃ tr, generate mapS mapO exE 0 mapDraws = .ok mapResult [] tr ∧ mapDraws = tr.map Ev.draw ∧
      (∀ e ∈ tr, e.unmapped mapO exE) ∧ (∀ e ∈ tr, e.gen ≠ .string) ∧ ∀ e ∈ tr, e.gen ≠ .enumIdx 3) ∧
    msgOK mapS false (fuelFor 0) 0 mapResult = true ∧ utf8OK mapS (fuelFor 0) 0 mapResult = true ∧
    enumsOK mapS exE (fuelFor 0) 0 mapResult = true := by
  obtain ⟨tr, h, hr⟩ := map_generates
  obtain ⟨hm, hu, he, _⟩ := C18_draws_wellformed mapS mapO exE (by decide) mapO_ok 0 mapDraws _ [] tr h hr
  have hc := C18_draws_mapper_consumes_no_draw mapS mapO exE 0 mapDraws _ [] tr h
  refine ⟨C18_draws_mapper_honoured mapS mapO exE 0 mapDraws _ [] tr h,
    ⟨tr, h, hc.1, hc.2, C18_draws_mapper_no_string_draw mapS mapO exE 0 mapDraws _ [] tr h mVal rfl, ?_⟩,
    hm, hu, he⟩
  refine C18_draws_mapper_no_draw_of_gen mapS mapO exE 0 mapDraws _ [] tr h .enum (fun k' hk' => ?_)
  cases k' <;> simp [scalarGen, exE] at hk'
  simp [mapO]

namespace DrawsExample

/-- `message Q { repeated Q q = 1; string s = 2; }` -/
def leftMapS : Schema := ⟨[⟨[⟨1, .message 0, .repeated false⟩, ⟨2, .scalar .string, .singular⟩]⟩]⟩

/-- levels 0–9: `q` gets one element; level 10: `q` count 2 (one element survives the Truncate quirk); then the
    `gen-s` flags of levels 10 … 0 (`s` is mapped: no `String()` draw) -/
def leftMapDraws : List Draw :=
  (List.replicate 10 [.bool true, one]).flatten ++ [.bool true, .num (some 2) none none] ++
    List.replicate 11 (.bool true)

end DrawsExample

open DrawsExample in
/-- Remark 7 (`FieldMaps` and the Truncate quirk). The element left behind at depth `depthLimit + 1` is an
    empty message that was never filled: its string field holds "" and not the mapper's value. `mapLocal`
    (which stops at the limit) holds everywhere, the same predicate without the depth guard fails. -/
theorem C18_remark_mapper_leftover :
    ∃ v tr, generate leftMapS mapO [0] 0 leftMapDraws = .ok v [] tr ∧
      everywhere (mapLocal leftMapS mapO) leftMapS (fuelFor 0) 0 0 v = true ∧
      everywhere (fun _ i m => ((leftMapS.msg i).fields.zip m.slots).all (fun p => mapField mapO true p.1 p.2))
        leftMapS (fuelFor 0) 0 0 v = false :=
  ⟨_, _, rfl, by decide, by decide⟩

open DrawsExample in
/-- the singular string field of the root IS the mapper's value -/
example (v : Val) (rest : List Draw) (tr : List Ev) (h : generate mapS mapO exE 0 mapDraws = .ok v rest tr) :
    v.slot 0 = mVal := by
  obtain ⟨tr', h', _⟩ := map_generates
  rw [h'] at h
  cases h
  rfl

open DrawsExample in
/-- without the mapper the same draws do not fit: the `String()` draw of field 1 is missing at position 1 -/
example : generate mapS {} exE 0 mapDraws = .stuck 18 .wrongType := rfl

open DrawsExample in
/-- `mapLocal` is not vacuous: the message generated WITHOUT the mapper from draws that fit violates it -/
example : ∃ v tr, generate mapS {} exE 0
      [.bool true, .str [0x78], .bool false, n 0, .bool false, .bool false, .bool true, n 1, .bool false, .str [],
       .bool true, n 0] = .ok v [] tr ∧
    everywhere (mapLocal mapS mapO) mapS (fuelFor 0) 0 0 v = false :=
  ⟨_, _, rfl, by decide⟩

end Pulsar.Rapidproto

#print axioms Pulsar.Rapidproto.C18_draws_total
#print axioms Pulsar.Rapidproto.C18_draws_total_generate
#print axioms Pulsar.Rapidproto.C18_draws_wellformed_setFields
#print axioms Pulsar.Rapidproto.C18_draws_wellformed
#print axioms Pulsar.Rapidproto.C18_draws_msgOK
#print axioms Pulsar.Rapidproto.C18_draws_marshal_total
#print axioms Pulsar.Rapidproto.C18_draws_marshal_roundtrip
#print axioms Pulsar.Rapidproto.C18_draws_depth_bounded
#print axioms Pulsar.Rapidproto.C18_draws_depth_bounded_setFields
#print axioms Pulsar.Rapidproto.C18_draws_noEmptyLists
#print axioms Pulsar.Rapidproto.C18_draws_noEmptyLists_setFields
#print axioms Pulsar.Rapidproto.C18_draws_disallowNil
#print axioms Pulsar.Rapidproto.C18_draws_disallowNil_setFields
#print axioms Pulsar.Rapidproto.C18_remark_noEmptyLists_skipped
#print axioms Pulsar.Rapidproto.C18_remark_noEmptyLists_at_limit
#print axioms Pulsar.Rapidproto.C18_remark_noEmptyLists_leftover
#print axioms Pulsar.Rapidproto.C18_remark_disallowNil_at_limit
#print axioms Pulsar.Rapidproto.C18_remark_oneof_emptied_at_limit
#print axioms Pulsar.Rapidproto.C18_remark_oneof_scalar_last_wins
#print axioms Pulsar.Rapidproto.C18_draws_mapper_honoured
#print axioms Pulsar.Rapidproto.C18_draws_mapper_honoured_setFields
#print axioms Pulsar.Rapidproto.C18_draws_mapper_honoured_root_singular
#print axioms Pulsar.Rapidproto.C18_draws_mapper_consumes_no_draw
#print axioms Pulsar.Rapidproto.C18_draws_mapper_consumes_no_draw_setFields
#print axioms Pulsar.Rapidproto.C18_draws_mapper_no_draw_of_gen
#print axioms Pulsar.Rapidproto.C18_draws_mapper_no_string_draw
#print axioms Pulsar.Rapidproto.C18_draws_mapper_total_only_flags_and_counts
#print axioms Pulsar.Rapidproto.rp_genScalar_mapped
#print axioms Pulsar.Rapidproto.rp_val_beq_iff
#print axioms Pulsar.Rapidproto.C18_remark_mapper_leftover
