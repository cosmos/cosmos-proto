/-
  C03 — Decoding any well-typed wire stream gives the reference result.
-/
import Pulsar.Proofs.DecodeRefLoop
import Pulsar.Proofs.DecodeConcat
import Pulsar.Proofs.Typing
namespace Pulsar

/-- strict acceptance implies plain acceptance with the same value (WellTyped streams are in the
    reference decoder's domain). -/
theorem C03_strict_implies_reference (S : Schema) (o : UOpts) (i : Nat) (m0 : Val) (bs : Bytes) (v : Val)
    (h : specUnmarshalStrict S o i m0 bs = .ok v) : specUnmarshal S o i m0 bs = .ok v :=
  -- the strict flag only turns some unknown-field paths into errors
  specDecodeInto_mono (s1 := true) (s2 := false) (fun h => nomatch h) (Nat.le_refl _) (Nat.lt_succ_self _) h

/-- C03 with the receiver required to be non-nil (the only extra hypothesis; neither `S.WF` nor
    `i < S.msgs.length` is needed). Same `Val`, same nil/non-nil flags. -/
theorem C03_decode_eq_reference (S : Schema) (_hS : S.WF = true) (o : UOpts) (i : Nat) (m0 : Val)
    (bs : Bytes) (v : Val)
    (_hi : i < S.msgs.length) (hl : bs.length < 9223372036854775808)
    (hm : o.merge = false ∨ msgOK S false (m0.depth + 1) i m0 = true)
    (hnn : o.merge = false → m0.isNone = false)
    (h : specUnmarshalStrict S o i m0 bs = .ok v) :
    implUnmarshal S o i m0 bs = .ok v :=
  unmarshal_agree S o i m0 bs v hl (hm.elim hnn msgOK_not_none) h

/-- The usual call: decoding into a fresh message. -/
theorem C03_decode_eq_reference_fresh (S : Schema) (o : UOpts) (i : Nat) (bs : Bytes) (v : Val)
    (ho : o.merge = false) (hl : bs.length < 9223372036854775808)
    (h : specUnmarshalStrict S o i (emptyMsg S i) bs = .ok v) :
    implUnmarshal S o i (emptyMsg S i) bs = .ok v :=
  have _ := ho  -- unused: a fresh message is not nil
  unmarshal_agree S o i _ bs v hl rfl h

/-! ### decoding a concatenation equals merging -/

/-- Reference decoder: if `a` decodes (into `m0`, or fresh) to `v1` and `b` decodes with Merge into `v1`
    to `v2`, then `a ++ b` decodes to `v2` — for every schema and all byte strings, no side condition. -/
theorem C03_concat_reference (S : Schema) (o : UOpts) (i : Nat) (m0 v1 v2 : Val) (a b : Bytes)
    (ha : specUnmarshal S o i m0 a = .ok v1)
    (hb : specUnmarshal S { o with merge := true } i v1 b = .ok v2) :
    specUnmarshal S o i m0 (a ++ b) = .ok v2 := by
  unfold specUnmarshal at *
  simp only [if_true] at hb
  exact specDecodeInto_concat (o := o) (o' := { o with merge := true }) rfl ha hb

/-- Well-typed streams are closed under concatenation (same statement for the strict decoder that
    defines `WellTyped`). -/
theorem C03_concat_strict (S : Schema) (o : UOpts) (i : Nat) (m0 v1 v2 : Val) (a b : Bytes)
    (ha : specUnmarshalStrict S o i m0 a = .ok v1)
    (hb : specUnmarshalStrict S { o with merge := true } i v1 b = .ok v2) :
    specUnmarshalStrict S o i m0 (a ++ b) = .ok v2 := by
  unfold specUnmarshalStrict at *
  simp only [if_true] at hb
  exact specDecodeInto_concat (o := o) (o' := { o with merge := true }) rfl ha hb

/-- The generated decoder: decoding the concatenation of two well-typed streams gives exactly the
    value the reference gives for "decode `a`, then merge-decode `b` into the result". -/
theorem C03_concat_eq_merge (S : Schema) (hS : S.WF = true) (o : UOpts) (i : Nat) (m0 v1 v2 : Val) (a b : Bytes)
    (hi : i < S.msgs.length) (hl : (a ++ b).length < 9223372036854775808)
    (hm : o.merge = false ∨ msgOK S false (m0.depth + 1) i m0 = true)
    (hnn : o.merge = false → m0.isNone = false)
    (ha : specUnmarshalStrict S o i m0 a = .ok v1)
    (hb : specUnmarshalStrict S { o with merge := true } i v1 b = .ok v2) :
    implUnmarshal S o i m0 (a ++ b) = .ok v2 :=
  C03_decode_eq_reference S hS o i m0 (a ++ b) v2 hi hl hm hnn (C03_concat_strict S o i m0 v1 v2 a b ha hb)

/-- … and it is the value the generated decoder itself computes in two steps (decode `a`, then decode
    `b` with Merge into the result). The intermediate value need not be assumed well-formed (`hv1`): it is
    non-nil because the reference returned it (`specUnmarshalStrict_isNone`). -/
theorem C03_concat_eq_two_steps (S : Schema) (hS : S.WF = true) (o : UOpts) (i : Nat) (m0 v1 v2 : Val) (a b : Bytes)
    (hi : i < S.msgs.length) (hl : (a ++ b).length < 9223372036854775808)
    (hm : o.merge = false ∨ msgOK S false (m0.depth + 1) i m0 = true)
    (hnn : o.merge = false → m0.isNone = false)
    (hv1 : msgOK S false (v1.depth + 1) i v1 = true)
    (ha : specUnmarshalStrict S o i m0 a = .ok v1)
    (hb : specUnmarshalStrict S { o with merge := true } i v1 b = .ok v2) :
    implUnmarshal S o i m0 a = .ok v1 ∧
    implUnmarshal S { o with merge := true } i v1 b = .ok v2 ∧
    implUnmarshal S o i m0 (a ++ b) = .ok v2 := by
  have hla : a.length < 9223372036854775808 := by simp only [List.length_append] at hl; omega
  have hlb : b.length < 9223372036854775808 := by simp only [List.length_append] at hl; omega
  have hm0 : m0.isNone = false := hm.elim hnn msgOK_not_none
  exact ⟨unmarshal_agree S o i m0 a v1 hla hm0 ha,
    unmarshal_agree S _ i v1 b v2 hlb (specUnmarshalStrict_isNone S o i m0 a v1 hla hm0 ha) hb,
    C03_concat_eq_merge S hS o i m0 v1 v2 a b hi hl hm hnn ha hb⟩

/-! ### non-vacuity -/

/-- msg0 { msg1 f = 1; }   msg1 { int32 a = 1; int32 b = 2; } -/
def c03Schema : Schema :=
  ⟨[⟨[⟨1, .message 1, .singular⟩]⟩, ⟨[⟨1, .scalar .int32, .singular⟩, ⟨2, .scalar .int32, .singular⟩]⟩]⟩

/-- `f{a:7} f{b:9}`: the singular message field occurs twice and must merge. -/
def c03Bytes : Bytes := [0x0a, 0x02, 0x08, 0x07, 0x0a, 0x02, 0x10, 0x09]

example : specUnmarshalStrict c03Schema {} 0 (emptyMsg c03Schema 0) c03Bytes
    = .ok (.msg [.msg [.bits 7, .bits 9] []] []) := by rfl

example : implUnmarshal c03Schema {} 0 (emptyMsg c03Schema 0) c03Bytes
    = .ok (.msg [.msg [.bits 7, .bits 9] []] []) :=
  C03_decode_eq_reference_fresh c03Schema {} 0 c03Bytes _ rfl (by decide) (by rfl)

example : WellTyped c03Schema 0 c03Bytes := by rfl

/-- msg0 { repeated int32 xs = 1 [packed]; map<int32,int32> m = 2; oneof { int32 p = 3; msg1 q = 4; } }
    msg1 { int32 a = 1; } -/
def c03Schema2 : Schema :=
  ⟨[⟨[⟨1, .scalar .int32, .repeated true⟩, ⟨2, .scalar .int32, .map .int32⟩,
      ⟨3, .scalar .int32, .oneof 0⟩, ⟨4, .message 1, .oneof 0⟩]⟩,
    ⟨[⟨1, .scalar .int32, .singular⟩]⟩]⟩

/-- packed run `xs:[1,2]`, unknown field 15 (varint 5), unpacked `xs:3`, map entry with the value
    before the key and a foreign record inside `{v:3, 9:0, k:1}`, oneof `p:5` then `q{a:7}`, `q{}`. -/
def c03Bytes2 : Bytes :=
  [0x0a, 0x02, 0x01, 0x02,  0x78, 0x05,  0x08, 0x03,
   0x12, 0x06, 0x10, 0x03, 0x48, 0x00, 0x08, 0x01,
   0x18, 0x05,  0x22, 0x02, 0x08, 0x07,  0x22, 0x00]

-- (`consumeValue` is compiled by well-founded recursion and therefore sealed: it is unsealed here for the kernel to run it)
unseal consumeValue consumeGroup in
theorem c03_example2 : specUnmarshalStrict c03Schema2 {} 0 (emptyMsg c03Schema2 0) c03Bytes2
    = .ok (.msg [.list true [.bits 1, .bits 2, .bits 3], .map true [.entry (.bits 1) (.bits 3)],
                 .none, .one (.msg [.bits 7] [])] [0x78, 0x05]) := by rfl

example : implUnmarshal c03Schema2 {} 0 (emptyMsg c03Schema2 0) c03Bytes2
    = .ok (.msg [.list true [.bits 1, .bits 2, .bits 3], .map true [.entry (.bits 1) (.bits 3)],
                 .none, .one (.msg [.bits 7] [])] [0x78, 0x05]) :=
  C03_decode_eq_reference_fresh c03Schema2 {} 0 c03Bytes2 _ rfl (by decide) c03_example2

/-- a known field with a foreign wire type is outside the domain (strict) but inside the reference
    decoder's (kept as an unknown field): the premise of C03 is not trivially everything. -/
example : specUnmarshalStrict c03Schema {} 1 (emptyMsg c03Schema 1) [0x0d, 0, 0, 0, 0]
    = .err .wrongWireType := by rfl
section
unseal consumeValue consumeGroup
example : specUnmarshal c03Schema {} 1 (emptyMsg c03Schema 1) [0x0d, 0, 0, 0, 0]
    = .ok (.msg [.bits 0, .bits 0] [0x0d, 0, 0, 0, 0]) := by rfl
end

/-- concatenation: `c03Bytes = f{a:7} ++ f{b:9}`; the two halves decode separately and merge. -/
example : specUnmarshalStrict c03Schema {} 0 (emptyMsg c03Schema 0) [0x0a, 0x02, 0x08, 0x07]
    = .ok (.msg [.msg [.bits 7, .bits 0] []] []) := by rfl
example : specUnmarshalStrict c03Schema { merge := true } 0 (.msg [.msg [.bits 7, .bits 0] []] []) [0x0a, 0x02, 0x10, 0x09]
    = .ok (.msg [.msg [.bits 7, .bits 9] []] []) := by rfl
example : implUnmarshal c03Schema {} 0 (emptyMsg c03Schema 0) ([0x0a, 0x02, 0x08, 0x07] ++ [0x0a, 0x02, 0x10, 0x09])
    = .ok (.msg [.msg [.bits 7, .bits 9] []] []) :=
  C03_concat_eq_merge c03Schema (by decide) {} 0 _ _ _ _ _ (by decide) (by decide) (Or.inl rfl) (fun _ => rfl)
    (by rfl) (by rfl)

end Pulsar

#print axioms Pulsar.C03_strict_implies_reference
#print axioms Pulsar.C03_decode_eq_reference
#print axioms Pulsar.C03_decode_eq_reference_fresh
#print axioms Pulsar.C03_concat_reference
#print axioms Pulsar.C03_concat_strict
#print axioms Pulsar.C03_concat_eq_merge
#print axioms Pulsar.C03_concat_eq_two_steps
