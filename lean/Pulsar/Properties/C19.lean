/-
  C19 — Generated Go API and descriptors are coherent with the schema (generator part).

  The two places where the fast-reflection code refers to a message by something other than its Go type:
  the index `N` of `&file_x_msgTypes[N]` (must be the message's slot in the flattened message table that
  the embedded protoc-gen-go builds in the same order) and the `Messages().ByName(…)` chain that
  initialises `md_<Message>` at package init (must reach the message's own descriptor).
  `protoimpl.TypeBuilder`, registries and `ByName` itself are protobuf-go (trusted; `resolve` states the
  assumed behaviour: first sibling of that name).
-/
import Pulsar.Proofs.GenMessages
namespace Pulsar.Gen
open Pulsar

/-! ### the flattened table -/

/-- the table holds exactly the messages of the file, each once -/
theorem C19_flatten_complete (tops : List MsgTree) :
    (∀ p, p ∈ allPositions tops ↔ (nodeAt tops p).isSome = true) ∧ (allPositions tops).Nodup :=
  ⟨fun _ => mem_allPositions, nodup_allPositions tops⟩

/-- top-level messages come first, in declaration order -/
theorem C19_toplevel_messages_first (tops : List MsgTree) (i : Nat) (h : i < tops.length) :
    (allPositions tops)[i]? = some [i] := by
  unfold allPositions
  rw [List.getElem?_append_left (by simpa using h)]
  simp [h]

/-- a message stands before each of its nested messages -/
theorem C19_flatten_parent_before_child (tops : List MsgTree) (p : Pos) (i : Nat) (hp : p ≠ [])
    (hv : (nodeAt tops (p ++ [i])).isSome = true) :
    [p, p ++ [i]].Sublist (allPositions tops) ∧
    (allPositions tops).idxOf p < (allPositions tops).idxOf (p ++ [i]) := by
  have hs : [p, p ++ [i]].Sublist (allPositions tops) := by
    rw [allPositions_eq]
    exact before_walkTree i p _ hp (by rw [← allPositions_eq]; exact mem_allPositions.2 hv)
  exact ⟨hs, sublist_pair_idxOf hs (nodup_allPositions tops)⟩

/-! ### message index -/

/-- `msgIndex` is the position in the flattened table, and the table holds that very message there —
    whatever the map iteration order. -/
theorem C19_msgIndex_is_flatten_position (o : List (Pos × Nat) → List (Pos × Nat))
    (ho : ∀ l, (o l).Perm l) (tops : List MsgTree) (m : Pos)
    (hu : fullNamesUnique tops = true) (hm : (nodeAt tops m).isSome = true) :
    ∃ k, msgIndex o tops m = some k ∧ k = (allPositions tops).idxOf m ∧
      (allPositions tops)[k]? = some m ∧ (allMessages tops)[k]? = some (fullName tops m) := by
  have hu' : (allMessages tops).Nodup := by simpa [fullNamesUnique] using hu
  have hmem := mem_allPositions.2 hm
  refine ⟨_, msgIndex_eq o ho tops m hu' hmem, rfl, idxOf_getElem? hmem, ?_⟩
  simp [allMessages, List.getElem?_map, idxOf_getElem? hmem]

/-- `panic("not found")` is unreachable for a message of the file (uniqueness not needed) -/
theorem C19_msgIndex_never_panics (o : List (Pos × Nat) → List (Pos × Nat))
    (ho : ∀ l, (o l).Perm l) (tops : List MsgTree) (m : Pos) (hm : (nodeAt tops m).isSome = true) :
    (msgIndex o tops m).isSome = true := by
  have hmem := mem_allPositions.2 hm
  have hself : (m, (allPositions tops).idxOf m) ∈ byPtr tops := byPtr_mem.2 (idxOf_getElem? hmem)
  rcases scanLast_spec (fun p => fullName tops p == fullName tops m) (o (byPtr tops)) with ⟨e, _, _, h⟩ | ⟨hn, _⟩
  · exact (show msgIndex o tops m = some e.2 from h) ▸ rfl
  · simpa using hn _ ((ho _).mem_iff.2 hself)

/-! ### descriptor path -/

/-- Evaluating the emitted `File_x.Messages().ByName(n₁)….ByName(nₖ)` chain, built from `findParents`,
    reaches the message itself when sibling names are unique at every level. -/
theorem C19_descPath_resolves_to_self (tops : List MsgTree) (m : Pos)
    (hu : siblingsUnique tops = true) (hm : (nodeAt tops m).isSome = true) :
    resolve tops (findParents tops m) = some m := by
  simp only [siblingsUnique, Bool.and_eq_true] at hu
  exact resolve_findParents m tops hu.1 hu.2 hm

/-- the hypothesis is needed: with two siblings of one name the chain reaches the first of them
    (protoc rejects such files) -/
theorem C19_descPath_needs_unique_siblings :
    ∃ (tops : List MsgTree) (m : Pos), (nodeAt tops m).isSome = true ∧
      resolve tops (findParents tops m) ≠ some m :=
  ⟨[.node "A" [], .node "A" []], [1], by decide, by decide⟩

/-- unique sibling names give unique full names: the hypotheses of the two theorems above coincide on
    what protoc accepts -/
theorem C19_siblings_unique_full_names_unique (tops : List MsgTree) (hu : siblingsUnique tops = true) :
    fullNamesUnique tops = true := by
  have : (allMessages tops).Nodup := by
    unfold allMessages
    apply nodup_map_of_inj_on _ (nodup_allPositions tops)
    intro a ha b hb hab
    have ra := C19_descPath_resolves_to_self tops a hu (mem_allPositions.1 ha)
    have rb := C19_descPath_resolves_to_self tops b hu (mem_allPositions.1 hb)
    unfold fullName at hab
    rw [hab, rb] at ra
    injection ra with ra
    exact ra.symm
  simpa [fullNamesUnique] using this

/-- both facts from the one hypothesis protoc guarantees -/
theorem C19_index_and_path_coherent (o : List (Pos × Nat) → List (Pos × Nat))
    (ho : ∀ l, (o l).Perm l) (tops : List MsgTree) (m : Pos)
    (hu : siblingsUnique tops = true) (hm : (nodeAt tops m).isSome = true) :
    msgIndex o tops m = some ((allPositions tops).idxOf m) ∧
    (allPositions tops)[(allPositions tops).idxOf m]? = some m ∧
    resolve tops (findParents tops m) = some m := by
  obtain ⟨k, h1, h2, h3, _⟩ := C19_msgIndex_is_flatten_position o ho tops m
    (C19_siblings_unique_full_names_unique tops hu) hm
  subst h2
  exact ⟨h1, h3, C19_descPath_resolves_to_self tops m hu hm⟩

-- non-vacuity: A{B{C} D} E
def c19tops : List MsgTree := [.node "A" [.node "B" [.node "C" []], .node "D" []], .node "E" []]
example : siblingsUnique c19tops = true := by decide
example : allPositions c19tops = [[0], [1], [0, 0], [0, 1], [0, 0, 0]] := by decide
example : allMessages c19tops = [["A"], ["E"], ["A", "B"], ["A", "D"], ["A", "B", "C"]] := by decide
example : findParents c19tops [0, 0, 0] = ["A", "B", "C"] := by decide
example : resolve c19tops ["A", "B", "C"] = some [0, 0, 0] := by decide
example : msgIndex id c19tops [0, 0, 0] = some 4 := by decide
example : msgIndex id c19tops [1] = some 1 := by decide
example : (nodeAt c19tops [0, 0, 0]).isSome = true := by decide
example : (nodeAt c19tops [0, 2]).isSome = false := by decide
example : resolve c19tops ["A", "X"] = none := by decide
-- the driver's forest syntax denotes the same forest
example : (parseTops "A(B(C),D),E").map allMessages = some (allMessages c19tops) := by decide +kernel
example : (parseTops "A(B(C),D),E").map (fun t => msgIndex id t [0, 0, 0]) = some (some 4) := by decide +kernel

end Pulsar.Gen

#print axioms Pulsar.Gen.C19_flatten_complete
#print axioms Pulsar.Gen.C19_toplevel_messages_first
#print axioms Pulsar.Gen.C19_flatten_parent_before_child
#print axioms Pulsar.Gen.C19_msgIndex_is_flatten_position
#print axioms Pulsar.Gen.C19_msgIndex_never_panics
#print axioms Pulsar.Gen.C19_descPath_resolves_to_self
#print axioms Pulsar.Gen.C19_descPath_needs_unique_siblings
#print axioms Pulsar.Gen.C19_siblings_unique_full_names_unique
#print axioms Pulsar.Gen.C19_index_and_path_coherent
