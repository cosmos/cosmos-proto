/-
  C04 / C02 (source level) — generator.KeySize as TRANSLATED FROM /repo's generator/helpers.go on this run
  (`Pulsar.Xf.generator_KeySize`) equals the length of the tag of (field number, wire type) for every legal field
  number: the constant every size formula of the size template adds per key is the number of key bytes the marshal
  template writes.
-/
import Pulsar.Proofs.GoSrcKeySize
import Pulsar.Proofs.EncodeScalar
namespace Pulsar

theorem C04_src_KeySize_eq_tag_length (num wt : Nat) (hn : num < 536870912) (hw : wt < 8) :
    Xf.generator_KeySize (num : Int) (wt : Int) = .ok ((tag num wt).length : Int) := by
  rw [src_KeySize num wt (by omega) (by omega), keySize_eq_tag_length hn hw]

theorem C04_src_KeySize_is_model (num wt : Nat) (hn : num < 2147483648) (hw : wt < 128) :
    Xf.generator_KeySize (num : Int) (wt : Int) = .ok (keySize num wt : Int) :=
  src_KeySize num wt hn hw

example : Xf.generator_KeySize 16 0 = .ok 2 := by decide
example : Xf.generator_KeySize 536870911 2 = .ok 5 := by decide

end Pulsar

#print axioms Pulsar.C04_src_KeySize_eq_tag_length
