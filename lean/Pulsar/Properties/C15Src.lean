/-
  C15 (source level) — runtime.Sov as TRANSLATED FROM /repo's runtime/runtime.go on this run
  (`Pulsar.Xf.runtime_Sov`; written by /verif/tools/go2lean into Pulsar/ExtractedFns.lean) computes
  exactly the wire-format size, for every 64-bit value. Nothing hand-written stands between these statements and
  the Go text except the translator and `math/bits.Len64` (= `bitLen`).
-/
import Pulsar.Proofs.GoSrcSov
namespace Pulsar

/-- the translated `Sov` never fails and equals protowire's varint size, for every uint64 -/
theorem C15_src_Sov_eq_protowire_size (x : Nat) (hx : x < 18446744073709551616) :
    Xf.runtime_Sov x = .ok ((varint x).length : Int) := by
  rw [src_Sov x hx, sov_eq_varint_length]

/-- the translated `Sov` IS the hand-written model `sov` used everywhere else in the proofs -/
theorem C15_src_Sov_is_model (x : Nat) (hx : x < 18446744073709551616) : Xf.runtime_Sov x = .ok (sov x : Int) :=
  src_Sov x hx

/-! non-vacuity: a concrete value through the translated code -/
example : Xf.runtime_Sov 300 = .ok 2 := by rw [C15_src_Sov_is_model 300 (by decide), sov_300]; rfl

end Pulsar

#print axioms Pulsar.C15_src_Sov_eq_protowire_size
