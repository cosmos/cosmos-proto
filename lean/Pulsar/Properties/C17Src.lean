/-
  C17 (source level) — support/timepb/cmp.go as TRANSLATED on this run (`Pulsar.Xf.timepb_*`, written by
  /verif/tools/go2lean into Pulsar/ExtractedFns.lean): the property's clauses stated directly about the translated
  Go text. Between these statements and the Go source stands only the translator (types and constants come from
  go/types); `time.Time` (AddStd) is outside the translated fragment and stays with the behavioural tie.
-/
import Pulsar.Proofs.GoSrcTimepb
import Pulsar.Properties.C17
namespace Pulsar.Timepb

/-- the translated functions are the hand-written models, on all values of the message types (nil included):
    seconds any int64, nanos any int32 -/
theorem C17_src_Compare_is_model (a b : Option SN) (ha : InR a) (hb : InR b) :
    Xf.timepb_Compare a b = compareOpt a b := src_Compare a b ha hb
theorem C17_src_Add_is_model (t : Option SN) (d : SN) (ht : InR t) (hd : InRange d) :
    Xf.timepb_Add t (some d) = add t d := src_Add t d ht hd

/-- exact and normalised: for valid t and d the translated `Add` returns the normalised representation of t + d -/
theorem C17_src_add_exact (t d : SN) (ht : ValidTS t) (hd : ValidDur d) :
    ∃ r, Xf.timepb_Add (some t) (some d) = .ok (some r) ∧ inst r = inst t + inst d ∧ Normalised r := by
  obtain ⟨r, h, hi⟩ := C17_add_exact t d ht hd
  exact ⟨r, by rw [src_Add _ _ (inR_some ht.inRange) hd.inRange]; exact h, hi, C17_add_normalised t d r ht hd h⟩

/-- when the exact seconds sum does not fit in an int64 the translated `Add` panics … -/
theorem C17_src_add_overflow_panics (t d : SN) (ht : InRange t) (hn : Normalised t) (hd : ValidDur d)
    (hov : let total := inst t + inst d
           total / 1000000000 < -9223372036854775808 ∨ total / 1000000000 > 9223372036854775807) :
    Xf.timepb_Add (some t) (some d) = .panic := by
  rw [src_Add _ _ (inR_some ht) hd.inRange]; exact C17_add_overflow_panics t d ht hn hd hov

/-- … and whenever it returns, the value is exact and normalised: no wrapped value is ever returned -/
theorem C17_src_add_no_wrap (t d r : SN) (ht : InRange t) (hn : Normalised t) (hd : ValidDur d)
    (h : Xf.timepb_Add (some t) (some d) = .ok (some r)) : inst r = inst t + inst d ∧ Normalised r := by
  rw [src_Add _ _ (inR_some ht) hd.inRange] at h; exact C17_add_no_wrap t d r ht hn hd h

/-- nil in, nil out -/
theorem C17_src_add_nil (d : SN) (hd : InRange d) : Xf.timepb_Add none (some d) = .ok none := by
  rw [src_Add _ _ inR_none hd]; rfl

/-- the translated `Compare` orders normalised timestamps as their instants -/
theorem C17_src_compare_chronological (a b : SN) (ha : InRange a) (hb : InRange b)
    (hna : Normalised a) (hnb : Normalised b) :
    ∃ c, Xf.timepb_Compare (some a) (some b) = .ok c ∧
      (c = -1 ↔ inst a < inst b) ∧ (c = 0 ↔ inst a = inst b) ∧ (c = 1 ↔ inst a > inst b) :=
  ⟨compare a b, by rw [src_Compare _ _ (inR_some ha) (inR_some hb)]; rfl, C17_compare_chronological a b hna hnb⟩

/-- `Compare` panics on nil (documented behaviour) -/
theorem C17_src_compare_nil (a : Option SN) (ha : InR a) :
    Xf.timepb_Compare none a = .panic ∧ Xf.timepb_Compare a none = .panic := by
  constructor
  · rw [src_Compare _ _ inR_none ha]; cases a <;> rfl
  · rw [src_Compare _ _ ha inR_none]; cases a <;> rfl

/-! non-vacuity through the translated code -/
example : Xf.timepb_Add (some ⟨10, 0⟩) (some ⟨0, -5⟩) = .ok (some ⟨9, 999999995⟩) := by
  rw [src_Add _ _ (inR_some (by unfold InRange; decide)) (by unfold InRange; decide)]; decide
example : Xf.timepb_Add (some ⟨9223372036854775807, 1000⟩) (some ⟨0, 999999999⟩) = .panic := by
  rw [src_Add _ _ (inR_some (by unfold InRange; decide)) (by unfold InRange; decide)]; decide

end Pulsar.Timepb

#print axioms Pulsar.Timepb.C17_src_add_exact
#print axioms Pulsar.Timepb.C17_src_add_overflow_panics
#print axioms Pulsar.Timepb.C17_src_add_no_wrap
#print axioms Pulsar.Timepb.C17_src_compare_chronological
