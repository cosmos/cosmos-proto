/-
  C14 — Unknown fields are kept exactly, or dropped everywhere when asked.
-/
import Pulsar.Proofs.DecodeDiscard
import Pulsar.Proofs.DecodeNoPanic
import Pulsar.Reflect
namespace Pulsar

/-- A record whose number is not a field of the message (and that `runtime.Skip` accepts: in particular
    every record protowire accepts, by C15_skip_len) is appended byte for byte to that message's unknown
    set, nothing else changes, and decoding continues right after it. -/
theorem C14_unknown_step (S : Schema) (i : Nat) (o : UOpts) (childDec : Nat → Val → Bytes → Res Val)
    (fuel : Nat) (m : Val) (rest : Bytes) (wire n : Nat) (r : Bytes)
    (hne : rest ≠ []) (hv : readVarint rest = .ok (wire, r))
    (hwt : wire % 8 ≠ 4) (hnum : (wire / 8) % 4294967296 ≠ 0 ∧ (wire / 8) % 4294967296 < 2147483648)
    (hunk : findField (S.msg i).fields ((wire / 8) % 4294967296) = none)
    (hs : skip rest = .ok n) (hn : n ≤ rest.length) (hd : o.discard = false) :
    implUnmarshalLoop S i o childDec (fuel + 1) m rest =
      implUnmarshalLoop S i o childDec fuel (Val.msg m.slots (m.unknown ++ rest.take n)) (rest.drop n) := by
  have hpos := skip_progress rest n hs
  have hl : 0 < rest.length := List.length_pos_iff.2 hne
  rw [implUnmarshalLoop_succ, if_neg hne, implRecord_of_tag hv hwt hnum, hunk]
  simp only [hs, Res.bind_ok, Nat.not_lt.2 hn, if_false, hd, Bool.false_eq_true, List.length_drop]
  rw [if_pos (by omega)]

/-- No known field ever lands in the unknown set: handling a record of a declared field leaves the
    unknown bytes of that message untouched. -/
theorem C14_known_never_unknown (S : Schema) (fs : List FieldDesc) (childDec : Nat → Val → Bytes → Res Val)
    (j : Nat) (f : FieldDesc) (wt : Nat) (slots : List Val) (u : Bytes) (rest : Bytes) (m' : Val) (r' : Bytes)
    (h : implKnownField S fs childDec j f wt (Val.msg slots u) rest = .ok (m', r')) :
    m'.unknown = u := by
  obtain ⟨v, _, rfl⟩ := implKnownField_eq_ok h
  exact storeSlot_unknown fs f j _ v

/-- Re-encoding emits the unknown bytes unchanged after all known fields (reference and generated code). -/
theorem C14_reencode_unknown_last (S : Schema) (i : Nat) (child : Nat → Val → Bytes) (slots : List Val) (u : Bytes) :
    specEncodeLvl S i child (Val.msg slots u) = specEncodeLvl S i child (Val.msg slots []) ++ u := by
  simp [specEncodeLvl, Val.slots, Val.unknown]

/-- With DiscardUnknown no unknown record survives at any depth and nothing else changes: decoding with
    the option equals decoding without it followed by erasing every unknown set (given a target that
    holds no unknown fields). -/
theorem C14_discard (S : Schema) (fuel : Nat) (depth : Int) (i : Nat) (bs : Bytes) :
    implUnmarshalClosure S { discard := true } fuel depth i (emptyMsg S i) bs =
      (match implUnmarshalClosure S { discard := false } fuel depth i (emptyMsg S i) bs with
       | .ok v => .ok (eraseUnknown S (v.depth + 1) i v)
       | .err e => .err e
       | .panic => .panic) := by
  -- the simulation, started from the fresh target, which holds no unknown fields
  have h := (implUnmarshalClosure_sim S fuel depth i (emptyMsg S i) bs (Sh_emptyMsg S i)).1
  rw [E_emptyMsg] at h
  rw [h]
  cases implUnmarshalClosure S { discard := false } fuel depth i (emptyMsg S i) bs <;> rfl

/-! ### GetUnknown / SetUnknown read and replace exactly that set -/

/-- `SetUnknown(b)` on a (non-nil) message replaces the unknown set by `b` and changes no field. -/
theorem C14_setUnknown_replaces (S : Schema) (i : Nat) (slots : List Val) (u b : Bytes) :
    Reflect.write S i (.msg slots u) (.setu b) = (.msg slots b, .ok) := rfl

/-- `GetUnknown` reads exactly the set (and `nil` on a nil receiver). -/
theorem C14_getUnknown_reads (S : Schema) (i : Nat) (s : Val) :
    Reflect.read S i s .getu = .unk s.unknown := rfl

/-- … so what `GetUnknown` returns after `SetUnknown(b)` is `b`, whatever the set was before, and the
    reference machine does the same. -/
theorem C14_get_after_set (S : Schema) (i : Nat) (slots : List Val) (u b : Bytes) :
    Reflect.read S i (Reflect.write S i (.msg slots u) (.setu b)).1 .getu = .unk b ∧
    SpecReflect.read S i (SpecReflect.write S i (.msg slots u) (.setu b)).1 .getu = .unk b := ⟨rfl, rfl⟩

/-- a nil receiver: `GetUnknown` is empty, `SetUnknown` panics (it is never silently dropped). -/
theorem C14_unknown_on_nil (S : Schema) (i : Nat) (b : Bytes) :
    Reflect.read S i .none .getu = .unk [] ∧ (Reflect.write S i .none (.setu b)).2 = .panic := ⟨rfl, rfl⟩

/-! ### Non-vacuity -/

/-- `message M { int32 a = 1; }` -/
def c14Schema : Schema := ⟨[⟨[⟨1, .scalar .int32, .singular⟩]⟩]⟩

/-- `a = 5` followed by the unknown record `2: 7` (`08 05 10 07`): accepted, the unknown record is retained
    byte for byte. -/
example : implUnmarshal c14Schema {} 0 (emptyMsg c14Schema 0) [0x08, 0x05, 0x10, 0x07] =
    .ok (.msg [.bits 5] [0x10, 0x07]) :=
  by rw [implUnmarshal_fresh]; rfl

/-- with DiscardUnknown it is dropped, and this is `eraseUnknown` of the retaining run (`C14_discard`). -/
example : implUnmarshalClosure c14Schema { discard := true } 5 10000 0 (emptyMsg c14Schema 0) [0x08, 0x05, 0x10, 0x07] =
    .ok (.msg [.bits 5] []) := by rfl
example : implUnmarshalClosure c14Schema { discard := false } 5 10000 0 (emptyMsg c14Schema 0) [0x08, 0x05, 0x10, 0x07] =
    .ok (.msg [.bits 5] [0x10, 0x07]) := by rfl
example : eraseUnknown c14Schema ((Val.msg [.bits 5] [0x10, 0x07]).depth + 1) 0 (.msg [.bits 5] [0x10, 0x07]) =
    .msg [.bits 5] [] := by rfl

/-- the hypotheses of `C14_unknown_step` are met by the record `10 07` (field 2, not declared). -/
example (childDec : Nat → Val → Bytes → Res Val) (fuel : Nat) (m : Val) :
    implUnmarshalLoop c14Schema 0 {} childDec (fuel + 1) m [0x10, 0x07] =
      implUnmarshalLoop c14Schema 0 {} childDec fuel (Val.msg m.slots (m.unknown ++ [0x10, 0x07])) [] :=
  C14_unknown_step c14Schema 0 {} childDec fuel m [0x10, 0x07] 16 2 [0x07]
    (by simp) (by rfl) (by decide) (by decide) (by decide) (by decide) (by decide) rfl

/-- the hypothesis of `C14_known_never_unknown` is met: field 1 handled, unknown bytes `aa` untouched. -/
example : (Val.msg [.bits 5] [0xaa]).unknown = [0xaa] :=
  C14_known_never_unknown c14Schema (c14Schema.msg 0).fields (fun _ v _ => .ok v) 0 ⟨1, .scalar .int32, .singular⟩ 0
    [.bits 0] [0xaa] [0x05] (.msg [.bits 5] [0xaa]) [] (by rfl)

#print axioms C14_unknown_step
#print axioms C14_known_never_unknown
#print axioms C14_reencode_unknown_last
#print axioms C14_discard

end Pulsar
#print axioms Pulsar.C14_setUnknown_replaces
#print axioms Pulsar.C14_getUnknown_reads
#print axioms Pulsar.C14_get_after_set
#print axioms Pulsar.C14_unknown_on_nil
