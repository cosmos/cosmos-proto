/-
  C13 — Code generation is deterministic and hermetic.

  Every `range` over a Go map in the generator is a permutation parameter of the model (`Pulsar.Gen`);
  the theorems say that the answer does not depend on it. Absence of *other* sources of nondeterminism
  in the Go code is not provable from a model of the known ones (DESIGN §3 C13, partial).
-/
import Pulsar.Proofs.GenFeatures
import Pulsar.Proofs.GenMessages
namespace Pulsar.Gen
open Pulsar

/-! ### features: map → sort by name -/

/-- Whatever order `range required` yields, the features run in the same order. -/
theorem C13_features_order_independent (reg : List (String × Bool)) (names : List String)
    (o₁ o₂ : List (String × Bool) → List (String × Bool))
    (h₁ : ∀ l, (o₁ l).Perm l) (h₂ : ∀ l, (o₂ l).Perm l) (hreg : (reg.map (·.1)).Nodup) :
    findFeatures reg names o₁ = findFeatures reg names o₂ :=
  findFeatures_order_independent reg names o₁ o₂ h₁ h₂ hreg

/-- instance for the features the plugin registers -/
theorem C13_registered_features_order_independent (names : List String)
    (o₁ o₂ : List (String × Bool) → List (String × Bool))
    (h₁ : ∀ l, (o₁ l).Perm l) (h₂ : ∀ l, (o₂ l).Perm l) :
    findFeatures registered names o₁ = findFeatures registered names o₂ :=
  findFeatures_order_independent registered names o₁ o₂ h₁ h₂ (by decide)

/-- the running order is ascending by name, without repetitions -/
theorem C13_features_sorted (reg : List (String × Bool)) (names : List String)
    (o : List (String × Bool) → List (String × Bool)) (ho : ∀ l, (o l).Perm l)
    (hreg : (reg.map (·.1)).Nodup) (fs : List (String × Bool)) (h : findFeatures reg names o = .ok fs) :
    fs.Pairwise (fun a b => a.1 < b.1) := by
  obtain ⟨r, hc, rfl⟩ := findFeatures_ok h
  have hk := collect_nodup reg hreg names false [] r (by simp [featureNames]) hc
  apply sortByName_sorted
  unfold featureNames at *
  exact ((ho r).map _).nodup_iff.2 hk

/-- the whole run (which files come back) does not depend on the map order either -/
theorem C13_run_order_independent (flag : Option String) (files : List FileIn)
    (o₁ o₂ : List (String × Bool) → List (String × Bool))
    (h₁ : ∀ l, (o₁ l).Perm l) (h₂ : ∀ l, (o₂ l).Perm l) :
    runPlugin flag files o₁ = runPlugin flag files o₂ := by
  unfold runPlugin
  rw [C13_registered_features_order_independent _ o₁ o₂ h₁ h₂]

/-! ### message index: scan of a pointer-keyed map -/

/-- When full names are unique within the file, the index found by ranging over `AllMessagesByPtr`
    does not depend on the iteration order (for any target, found or not). -/
theorem C13_message_index_order_independent (tops : List MsgTree) (target : Pos)
    (o₁ o₂ : List (Pos × Nat) → List (Pos × Nat))
    (h₁ : ∀ l, (o₁ l).Perm l) (h₂ : ∀ l, (o₂ l).Perm l)
    (hu : fullNamesUnique tops = true) :
    msgIndex o₁ tops target = msgIndex o₂ tops target := by
  have hu' : (allMessages tops).Nodup := by simpa [fullNamesUnique] using hu
  unfold msgIndex
  apply scanLast_perm _ ((h₁ _).trans (h₂ _).symm)
  intro e he e' he' hp hp'
  have hn : fullName tops e.1 = fullName tops e'.1 := by
    have a : fullName tops e.1 = fullName tops target := by simpa using hp
    have b : fullName tops e'.1 = fullName tops target := by simpa using hp'
    rw [a, b]
  exact byPtr_unique hu' ((h₁ _).mem_iff.1 he) ((h₁ _).mem_iff.1 he') hn

/-- The hypothesis is needed (statement false without it): the loop has no `break`, so with two messages
    of the same full name the last one in iteration order wins. protoc rejects such files, so no valid
    request reaches this. -/
theorem C13_message_index_order_dependent_on_duplicates :
    ∃ (tops : List MsgTree) (target : Pos), fullNamesUnique tops = false ∧
      msgIndex id tops target ≠ msgIndex List.reverse tops target :=
  ⟨[.node "A" [], .node "A" []], [0], by decide, by decide⟩

/-! ### hermeticity: one file's outcome vs. the other files of the request -/

/-- The decision for a file (emitted or not, and which features write into it) is a function of the
    file's own flags and the feature list: the state left by the files generated before it (`seen`) and
    the set of co-generated packages (`local`) do not enter. -/
theorem C13_file_content_independent_of_cogenerated (feats : List (String × Bool)) (f : FileIn)
    (seen₁ seen₂ : List (String × Nat)) (local₁ local₂ : List String) :
    (generateFile feats seen₁ local₁ f).1.emitted = (generateFile feats seen₂ local₂ f).1.emitted ∧
    (generateFile feats seen₁ local₁ f).1.ran = (generateFile feats seen₂ local₂ f).1.ran := by
  simp [generateFile_emitted, generateFile_ran]

/-- The same inside whole requests: `f` generated together with any files before and after it. -/
theorem C13_file_outcome_in_any_request (feats : List (String × Bool)) (f : FileIn)
    (pre₁ post₁ pre₂ post₂ : List FileIn) (seen₁ seen₂ : List (String × Nat)) (local₁ local₂ : List String) :
    ((generateAll feats local₁ seen₁ (pre₁ ++ f :: post₁))[pre₁.length]?).map (fun o => (o.emitted, o.ran)) =
    ((generateAll feats local₂ seen₂ (pre₂ ++ f :: post₂))[pre₂.length]?).map (fun o => (o.emitted, o.ran)) := by
  simp [← List.getElem?_map, generateAll_decisions]

/-- What DOES depend on the files generated before: whether `GenerateHelpers` is invoked (once per Go
    import path and feature). Both registered features implement it as a no-op
    (fast_plugin.go `// no helpers needed here yet`, protoc/feature.go `//noop`), so no emitted byte
    depends on it today; a feature with real helpers would make the first file of a package differ. -/
theorem C13_helpers_call_depends_on_cogenerated :
    (generateFile [("fast", true)] [] [] ⟨true, true, "p", "pkg"⟩).1.helpers ≠
    (generateFile [("fast", true)] [("p", 0)] [] ⟨true, true, "p", "pkg"⟩).1.helpers := by
  decide

-- non-vacuity
def c13tops : List MsgTree := [.node "A" [.node "B" [.node "C" []], .node "D" []], .node "E" []]
example : fullNamesUnique c13tops = true := by decide
example : msgIndex id c13tops [0, 0, 0] = some 4 := by decide
example : msgIndex List.reverse c13tops [0, 0, 0] = some 4 := by decide
example : msgIndex id [.node "A" [], .node "A" []] [0] = some 1 := by decide
example : msgIndex List.reverse [.node "A" [], .node "A" []] [0] = some 0 := by decide
example : findFeatures registered ["protoc", "fast"] id = findFeatures registered ["protoc", "fast"] List.reverse := rfl
example : (generateAll [("fast", true)] [] [] [⟨true, true, "p", "a"⟩, ⟨true, true, "p", "a"⟩]).map (·.helpers) = [[0], []] := by decide
example : (generateAll [("fast", true)] [] [] [⟨true, true, "p", "a"⟩, ⟨true, true, "p", "a"⟩]).map (·.emitted) = [true, true] := by decide
-- emission order of the marshal closure for `{1: singular, 5: oneof 0, 3: singular, 2: oneof 0}`: oneof members, then 3, 1
example : marshalEmitOrder [⟨1, .scalar .int32, .singular⟩, ⟨5, .scalar .int32, .oneof 0⟩,
    ⟨3, .scalar .bool, .singular⟩, ⟨2, .scalar .string, .oneof 0⟩] = [5, 2, 3, 1] := by decide

end Pulsar.Gen

#print axioms Pulsar.Gen.C13_features_order_independent
#print axioms Pulsar.Gen.C13_registered_features_order_independent
#print axioms Pulsar.Gen.C13_features_sorted
#print axioms Pulsar.Gen.C13_run_order_independent
#print axioms Pulsar.Gen.C13_message_index_order_independent
#print axioms Pulsar.Gen.C13_message_index_order_dependent_on_duplicates
#print axioms Pulsar.Gen.C13_file_content_independent_of_cogenerated
#print axioms Pulsar.Gen.C13_file_outcome_in_any_request
#print axioms Pulsar.Gen.C13_helpers_call_depends_on_cogenerated
