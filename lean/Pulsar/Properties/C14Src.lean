/-
  C14 / C03 / C06 (source level) — runtime.UnmarshalInputToOptions as TRANSLATED FROM /repo's runtime/runtime.go on
  this run: the options every generated unmarshal closure hands to nested messages have Merge set (repeated
  occurrences of a singular message field merge: C03), carry DiscardUnknown of the input unchanged (C14: dropped
  everywhere or nowhere) and a recursion limit that is the model's `nestedLimit` of the input's budget (C06).
  Fields of types outside the translated fragment (NoUnkeyedLiterals, Resolver) are dropped by the translator.
-/
import Pulsar.ExtractedFns
import Pulsar.Proofs.GoSrcLimit
namespace Pulsar

theorem C14_src_unmarshal_options (input : Xf.Rec.protoiface_UnmarshalInput) (hf : input.Flags < 256)
    (hd : -9223372036854775808 ≤ input.Depth ∧ input.Depth ≤ 9223372036854775807) :
    Xf.runtime_UnmarshalInputToOptions input =
      .ok { Merge := true, AllowPartial := true, DiscardUnknown := input.Flags.testBit 0,
            RecursionLimit := nestedLimit input.Depth } := by
  unfold Xf.runtime_UnmarshalInputToOptions
  rw [src_nestedRecursionLimit _ hd]
  simp only [Res.bind_ok, Res.pure_eq, Res.ok.injEq, Xf.Rec.proto_UnmarshalOptions.mk.injEq, and_true, true_and]
  -- what is left mentions the flags byte only: decided for each of its 256 values, however the source tests the bit
  generalize input.Flags = fl at hf ⊢
  revert fl
  decide +kernel

/-- DiscardUnknown is forwarded unchanged to every nested decode -/
theorem C14_src_discard_forwarded (input : Xf.Rec.protoiface_UnmarshalInput) (hf : input.Flags < 256)
    (hd : -9223372036854775808 ≤ input.Depth ∧ input.Depth ≤ 9223372036854775807) :
    ∃ o, Xf.runtime_UnmarshalInputToOptions input = .ok o ∧ o.DiscardUnknown = input.Flags.testBit 0 ∧ o.Merge = true :=
  ⟨_, C14_src_unmarshal_options input hf hd, rfl, rfl⟩

/-- the recursion budget of nested decodes strictly decreases and is never the "unset" value 0 -/
theorem C14_src_limit_decreases (input : Xf.Rec.protoiface_UnmarshalInput) (hf : input.Flags < 256)
    (hd : 0 < input.Depth ∧ input.Depth ≤ 9223372036854775807) :
    ∃ o, Xf.runtime_UnmarshalInputToOptions input = .ok o ∧ o.RecursionLimit < input.Depth ∧ o.RecursionLimit ≠ 0 := by
  exact ⟨_, C14_src_unmarshal_options input hf ⟨by omega, hd.2⟩, nestedLimit_lt hd.1⟩

example : Xf.runtime_UnmarshalInputToOptions { Flags := 1, Depth := 0 } =
    .ok { Merge := true, AllowPartial := true, DiscardUnknown := true, RecursionLimit := 9999 } := by decide

end Pulsar

#print axioms Pulsar.C14_src_unmarshal_options
#print axioms Pulsar.C14_src_limit_decreases
