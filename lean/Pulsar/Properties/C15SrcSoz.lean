/-
  C15 (source level) — runtime.Soz as TRANSLATED FROM /repo's runtime/runtime.go on this run (`Pulsar.Xf.runtime_Soz`)
  computes exactly the size of the zig-zag encoding, for every 64-bit pattern.
-/
import Pulsar.Proofs.GoSrcSoz
namespace Pulsar

/-- the translated `Soz` never fails and equals the size of the zig-zag encoding, for every uint64 pattern -/
theorem C15_src_Soz_eq (x : Nat) (hx : x < 18446744073709551616) :
    Xf.runtime_Soz x = .ok ((varint (zigzag64 x)).length : Int) := by
  rw [src_Soz x hx, soz_eq_varint_length x hx]

theorem C15_src_Soz_is_model (x : Nat) (hx : x < 18446744073709551616) : Xf.runtime_Soz x = .ok (soz x : Int) :=
  src_Soz x hx

end Pulsar

#print axioms Pulsar.C15_src_Soz_eq
