/-
  C19 — the Go type table and the dependency index table of the generated file descriptor
  (`features/protoc/main.go: genReflectFileDescriptor`, model: Pulsar.GenTables) are coherent with the schema:
  protobuf-go resolves field and method types positionally through them.

  Tie: for every generated corpus file the gen engine sends the flattened enum / message names, the typed fields
  of every message in DECLARATION order and the methods (all read from the request's descriptor) and compares the
  model's tables with the `file_x_goTypes` / `file_x_depIdxs` variables parsed from the emitted source
  (`deptab` lines).
-/
import Pulsar.Proofs.GenTables
namespace Pulsar
open Gen

/-- **Every dependency index points at the row of the declared type**: the k-th entry of `depIdxs` (before the
    offsets) is the position in `goTypes` of the type of the k-th typed field in declaration order, then of the
    input types of the methods, then of their output types. For every file, no side condition. -/
theorem C19_depIdx_points_at_declared_type (enums msgs : List String) (fieldDeps : List (List String))
    (exts : List (String × Option String)) (methods : List (String × String)) :
    let T := typeTables enums msgs fieldDeps exts methods
    T.deps.length = (allDeps fieldDeps exts methods).length ∧
    ∀ k (h : k < (allDeps fieldDeps exts methods).length),
      T.goTypes[T.deps.getD k 0]? = some (allDeps fieldDeps exts methods)[k] := by
  intro T
  show T.deps.length = _ ∧ ∀ k h, T.goTypes[T.deps.getD k 0]? = _
  rw [(typeTables_eq ..).1, (typeTables_eq ..).2]
  exact (foldl_dep_good (allDeps fieldDeps exts methods) _ _ (foldl_decl_good _)).getD

/-- No type has two rows. -/
theorem C19_goTypes_nodup (enums msgs : List String) (fieldDeps : List (List String)) (exts : List (String × Option String)) (methods : List (String × String)) :
    (typeTables enums msgs fieldDeps exts methods).goTypes.Nodup := by
  exact (typeTables_goTypes enums msgs fieldDeps exts methods).2.1

/-- **The file's own declarations come first, in flattened order** (enums, then messages): row `i` of `goTypes`
    is the i-th declaration, which is what makes `file_x_enumTypes[i]` / `file_x_msgTypes[i]` and the
    `&file_x_msgTypes[N]` of `slowProtoReflect` (C19_msgIndex_is_flatten_position) line up with it. Needs the
    declared full names to be distinct (protoc guarantees it). -/
theorem C19_goTypes_start_with_declarations (enums msgs : List String) (fieldDeps : List (List String))
    (exts : List (String × Option String)) (methods : List (String × String)) (hd : (enums ++ msgs).Nodup) :
    ∃ imported, (typeTables enums msgs fieldDeps exts methods).goTypes = enums ++ msgs ++ imported := by
  obtain ⟨imported, h⟩ := (typeTables_goTypes enums msgs fieldDeps exts methods).1
  rw [foldl_decl_distinct (enums ++ msgs) {} (by simpa using hd)] at h
  exact ⟨imported, h⟩

/-- Every row is a declaration of the file or the type of one of its fields / methods: nothing else gets in. -/
theorem C19_goTypes_only_declared_or_used (enums msgs : List String) (fieldDeps : List (List String))
    (exts : List (String × Option String)) (methods : List (String × String)) (x : String)
    (h : x ∈ (typeTables enums msgs fieldDeps exts methods).goTypes) :
    x ∈ enums ++ msgs ∨ x ∈ allDeps fieldDeps exts methods := by
  exact ((typeTables_goTypes enums msgs fieldDeps exts methods).2.2 x).1 h

/-- The five trailing offsets delimit the sections as `filetype.TypeBuilder` reads them: field type names occupy
    `[0, F)`, extension extendees `[F, F+X)`, extension type names `[F+X, F+X+T)`, method inputs the next `M`
    entries, method outputs the last `M`. -/
theorem C19_depIdx_offsets (enums msgs : List String) (fieldDeps : List (List String)) (exts : List (String × Option String)) (methods : List (String × String)) :
    (typeTables enums msgs fieldDeps exts methods).offsets =
      [fieldDeps.flatten.length + exts.length + (extTypes exts).length + methods.length,
       fieldDeps.flatten.length + exts.length + (extTypes exts).length,
       fieldDeps.flatten.length + exts.length,
       fieldDeps.flatten.length, 0] ∧
    (typeTables enums msgs fieldDeps exts methods).deps.length =
      fieldDeps.flatten.length + exts.length + (extTypes exts).length + methods.length + methods.length := by
  simp [typeTables, foldl_dep_deps_length, foldl_decl_deps, extendees, Nat.add_assoc]

/-! ### non-vacuity: a file with an enum, three messages (one a map entry), a repeated self reference, an imported
    type used twice and a method -/

example :
    typeTables ["p.E"] ["p.A", "p.A.MEntry", "p.B"]
      [["p.B", "p.E", "p.A.MEntry", "q.X"], ["p.B"], ["p.A", "q.X", "p.E"]] [] [("p.A", "q.Y")] =
    { goTypes := ["p.E", "p.A", "p.A.MEntry", "p.B", "q.X", "q.Y"],
      deps := [3, 0, 2, 4, 3, 1, 4, 0, 1, 5],
      offsets := [9, 8, 8, 8, 0] } := by decide

/-- a file that declares extensions: two of descriptor.proto's FieldOptions (one enum typed), one of MessageOptions
    that is message typed -/
example :
    typeTables ["p.E"] ["p.A"] [["p.E"]]
      [("g.FieldOptions", none), ("g.MessageOptions", some "p.A"), ("g.FieldOptions", some "p.E")] [("p.A", "p.A")] =
    { goTypes := ["p.E", "p.A", "g.FieldOptions", "g.MessageOptions"],
      deps := [0, 2, 3, 2, 1, 0, 1, 1],
      offsets := [7, 6, 4, 1, 0] } := by decide

end Pulsar

#print axioms Pulsar.C19_depIdx_points_at_declared_type
#print axioms Pulsar.C19_goTypes_nodup
#print axioms Pulsar.C19_goTypes_start_with_declarations
#print axioms Pulsar.C19_goTypes_only_declared_or_used
#print axioms Pulsar.C19_depIdx_offsets
