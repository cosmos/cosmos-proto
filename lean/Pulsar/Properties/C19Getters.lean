/-
  C19 (plain Go API part) — the generated plain-Go accessors agree with the fast reflection on every
  message state: the getter `x.Get<Field>()` (protocol op `getter j`, IMPL semantics `Reflect.getterF` /
  `Reflect.getterZero`, read off protoc-gen-go's `genMessageGetterMethods`) returns what
  `x.ProtoReflect().Get(fd)` returns (op `get j`) — also on the nil receiver —, and `Reset()` (op `reset`,
  `*x = T{}`) leaves the empty message.

  The typed-nil oneof wrapper (`x.Oneof = (*T_M)(nil)`, slot `.oneNil`) is no exception: since fix 8687e51 the
  member getter tests `ok && x != nil` and answers the default there, exactly like `Get` (fix 424cbe1); see
  `C19_getter_typed_nil_wrapper_default`. So `getters_eq_get` needs no hypothesis at all, neither typing nor on
  the slot; the hypothesis `isOneNil (s.slot j) = false` of `C19_getters_eq_get` is not needed (that state is
  outside the junk-free domain `msgOK S false` of C08: no reflection op, decoder or constructor produces it).
-/
import Pulsar.Proofs.ReflectCor
import Pulsar.Proofs.EncodeEmpty
namespace Pulsar

/-- The relation between the output `g` of `getter j` and the output `r` of `get j`, spelled out:
    scalars are equal (integers, floats, bools, enums as bit patterns; strings and bytes as byte strings),
    a message getter returns a non-nil pointer exactly when `Get(fd).Message().IsValid()`,
    the returned slice / map has the length of the `List` / `Map` view — and that view is valid exactly
    when it is non-empty —, and for a field index out of range there is neither a method nor a field. -/
def GetterAgrees : Out → Out → Prop
  | .bits a, .bits b => a = b
  | .str a, .str b => a = b
  | .msgv a, .msgv b => a = b
  | .glist n, .listv v m => n = m ∧ v = decide (0 < m)
  | .gmap n, .mapv v m => n = m ∧ v = decide (0 < m)
  | .panic, .panic => True
  | _, _ => False

theorem getterAgrees_field (f : FieldDesc) (v : Val) : GetterAgrees (Reflect.getterF f v) (Reflect.getF f v) := by
  have hE : ∀ e x, GetterAgrees (outElem e x) (outElem e x) := by
    intro e x; cases e <;> simp only [outElem] <;> (try split) <;> rfl
  unfold Reflect.getterF Reflect.getF
  cases f.shape with
  | singular => exact hE _ _
  | oneof g => cases v <;> exact hE _ _
  | repeated p => cases v.elems <;> simp [GetterAgrees]
  | map kk => cases v.elems <;> simp [GetterAgrees]

theorem getters_eq_get (S : Schema) (i : Nat) (s : Val) (j : Nat) :
    (Reflect.step S i s (.r (.getter j))).2 = ((Reflect.step S i s (.r (.get j))).2).asGetter ∧
    GetterAgrees (Reflect.step S i s (.r (.getter j))).2 (Reflect.step S i s (.r (.get j))).2 := by
  simp only [step_read, Reflect.read]
  cases hf : (S.msg i).fields[j]? with
  | none => exact ⟨rfl, trivial⟩
  | some f =>
    simp only []
    by_cases hs : s.isNone = true
    · simp only [hs, if_true, emptyMsg_slot S i j f hf]
      rw [← getterF_zero f]
      exact ⟨getterF_eq_asGetter_getF f _, getterAgrees_field f _⟩
    · simp only [hs, Bool.false_eq_true, if_false]
      exact ⟨getterF_eq_asGetter_getF f _, getterAgrees_field f _⟩

/-- **Getters agree with `Get`.** For every schema, every message type `i`, every state `s` — any `Val`
    at all: no typing hypothesis; `s = .none` is the nil receiver `(*T)(nil)` — and every field index `j`
    (out of range included: both sides panic), provided slot `j` is not a typed-nil oneof wrapper:
    the output of `getter j` is the output of `get j` rendered in the getter's tokens, i.e. the two
    outputs stand in the relation `GetterAgrees`. -/
theorem C19_getters_eq_get (S : Schema) (i : Nat) (s : Val) (j : Nat) (hn : isOneNil (s.slot j) = false) :
    (Reflect.step S i s (.r (.getter j))).2 = ((Reflect.step S i s (.r (.get j))).2).asGetter ∧
    GetterAgrees (Reflect.step S i s (.r (.getter j))).2 (Reflect.step S i s (.r (.get j))).2 :=
  getters_eq_get S i s j

/-- … in particular on the nil receiver, with no hypothesis at all: a getter called on `(*T)(nil)` returns
    what `Get` returns on the nil message (C09: the defaults), and does not panic. -/
theorem C19_getters_eq_get_nil (S : Schema) (i j : Nat) :
    (Reflect.step S i .none (.r (.getter j))).2 = ((Reflect.step S i .none (.r (.get j))).2).asGetter ∧
    GetterAgrees (Reflect.step S i .none (.r (.getter j))).2 (Reflect.step S i .none (.r (.get j))).2 ∧
    (j < (S.msg i).fields.length → (Reflect.step S i .none (.r (.getter j))).2 ≠ .panic) := by
  have h := getters_eq_get S i .none j
  refine ⟨h.1, h.2, fun hj => ?_⟩
  obtain ⟨f, hf⟩ : ∃ f, (S.msg i).fields[j]? = some f := ⟨_, List.getElem?_eq_getElem hj⟩
  simp only [step_read, Reflect.read, hf, Val.isNone, if_true]
  exact (getterZero_ne_panic f).1

/-- … and on every well-typed junk-free Go struct (the domain of C08; in particular every state reached
    from a decoded / constructed message by reflection histories, `C08_step_preserves_wf`). -/
theorem C19_getters_eq_get_wf (S : Schema) (n i : Nat) (s : Val) (j : Nat) (hs : msgOK S false n i s = true) :
    (Reflect.step S i s (.r (.getter j))).2 = ((Reflect.step S i s (.r (.get j))).2).asGetter ∧
    GetterAgrees (Reflect.step S i s (.r (.getter j))).2 (Reflect.step S i s (.r (.get j))).2 :=
  getters_eq_get S i s j

/-- The typed-nil wrapper (`x.Oneof = (*T_M)(nil)`): since fix 8687e51 the member getter answers the
    default, exactly like `Get`, and `Has` is false. -/
theorem C19_getter_typed_nil_wrapper_default (S : Schema) (i : Nat) (slots : List Val) (u : Bytes) (j g : Nat)
    (f : FieldDesc) (hf : (S.msg i).fields[j]? = some f) (hsh : f.shape = .oneof g)
    (hv : slots.getD j .none = .oneNil) :
    (Reflect.step S i (.msg slots u) (.r (.getter j))).2 = outElem f.elem (Elem.zeroVar f.elem) ∧
    (Reflect.step S i (.msg slots u) (.r (.get j))).2 = outElem f.elem (Elem.zeroVar f.elem) ∧
    (Reflect.step S i (.msg slots u) (.r (.has j))).2 = .bool false := by
  simp only [step_read, Reflect.read, Val.isNone_msg, Bool.false_eq_true, if_false, Val.slot, Val.slots_msg, hf, hv,
    Reflect.getterF, Reflect.getF, Reflect.hasF, hsh, and_self]

/-- **Getters agree with `Get` on every nested message as well**: for `getter j` / `get j` addressed through
    any `in`/`at`/`mv` path, on any root state: either the path itself fails (both ops give the same
    `panic` / `absent`), or both ops run on the same reached message `c` — a nil one for an unpopulated
    message field — and there the getter's output is `Get`'s output in getter tokens, unless slot `j` of `c`
    is a typed-nil oneof wrapper. -/
theorem C19_getters_eq_get_at_path (S : Schema) (p : List PStep) (i : Nat) (s : Val) (j : Nat) :
    (Reflect.step S i s (Op.under p (.r (.getter j)))).2 = (Reflect.step S i s (Op.under p (.r (.get j)))).2 ∨
    (∃ mi c,
      (Reflect.step S i s (Op.under p (.r (.getter j)))).2 = (Reflect.step S mi c (.r (.getter j))).2 ∧
      (Reflect.step S i s (Op.under p (.r (.get j)))).2 = (Reflect.step S mi c (.r (.get j))).2 ∧
      (isOneNil (c.slot j) = false →
        (Reflect.step S mi c (.r (.getter j))).2 = ((Reflect.step S mi c (.r (.get j))).2).asGetter ∧
        GetterAgrees (Reflect.step S mi c (.r (.getter j))).2 (Reflect.step S mi c (.r (.get j))).2)) := by
  have hw : ∀ o : ROp, (Reflect.step S i s (Op.under p (.r o))).2 = Reflect.stepR S i s (Op.under p (.r o)) := by
    intro o
    simp only [Reflect.step, Op.under_isWrite, Op.isWrite, Bool.false_eq_true, if_false]
  rcases stepR_under S p i s with ⟨out, h⟩ | ⟨mi, c, h⟩
  · left; rw [hw, hw, h, h]
  · right
    refine ⟨mi, c, ?_, ?_, fun _ => getters_eq_get S mi c j⟩
    · rw [hw, h, step_read]
    · rw [hw, h, step_read]

/-! ### Reset -/

/-- **`Reset` empties the message.** On every non-nil message — whatever it holds, unknown fields included,
    no typing hypothesis — `reset` (`proto.Reset` → the generated `Reset()`: `*x = T{}`) succeeds and leaves
    exactly `&T{}`; afterwards every `Has` is false, `Range` visits nothing, there are no unknown fields,
    no oneof has a member, every getter returns its zero value, and the message encodes to no bytes. -/
theorem C19_reset_is_empty (S : Schema) (i : Nat) (slots : List Val) (u : Bytes) :
    Reflect.step S i (.msg slots u) (.w .reset) = (emptyMsg S i, .ok) ∧
    (∀ j, j < (S.msg i).fields.length →
      (Reflect.step S i (Reflect.step S i (.msg slots u) (.w .reset)).1 (.r (.has j))).2 = .bool false) ∧
    (Reflect.step S i (emptyMsg S i) (.r .range)).2 = .fields [] ∧
    (Reflect.step S i (emptyMsg S i) (.r .getu)).2 = .unk [] ∧
    (Reflect.step S i (emptyMsg S i) (.r .valid)).2 = .bool true ∧
    (∀ j f, (S.msg i).fields[j]? = some f →
      (Reflect.step S i (emptyMsg S i) (.r (.getter j))).2 = Reflect.getterZero f) ∧
    (Reflect.step S i (emptyMsg S i) (.r .size)).2 = .nat 0 ∧
    (Reflect.step S i (emptyMsg S i) (.r .enc)).2 = .enc (.ok []) := by
  have hreset : Reflect.step S i (.msg slots u) (.w .reset) = (emptyMsg S i, .ok) := rfl
  refine ⟨hreset, ?_, ?_, ?_, ?_, ?_, ?_, ?_⟩
  · intro j hj
    obtain ⟨f, hf⟩ : ∃ f, (S.msg i).fields[j]? = some f := ⟨_, List.getElem?_eq_getElem hj⟩
    rw [hreset]
    have hz := emptyMsg_slot S i j f hf
    have hnn : (emptyMsg S i).isNone = false := rfl
    simp only [step_read, Reflect.read, hf, hnn, Bool.false_eq_true, if_false, hz, hasF_zero]
  · simp only [step_read, Reflect.read, emptyMsg, Val.isNone, Val.slots_msg, idxFilter_zero _ hasF_zero]
    rfl
  · rfl
  · rfl
  · intro j f hf
    simp only [step_read, Reflect.read, hf]
    rw [← getterF_zero f, ← emptyMsg_slot S i j f hf]
    rfl
  · simp only [step_read, Reflect.read, depth_emptyMsg]
    rw [implSize_emptyMsg S Reflect.mopts rfl 1 i]
  · simp only [step_read, Reflect.read, depth_emptyMsg]
    rw [implMarshal_emptyMsg S Reflect.mopts rfl 1 i]

/-- `Reset` refines the reference: the abstraction of the result is what dynamicpb's `Reset` leaves. -/
theorem C19_reset_refines (S : Schema) (n i : Nat) (slots : List Val) (u : Bytes) :
    abs S n i (Reflect.step S i (.msg slots u) (.w .reset)).1
      = (SpecReflect.step S i (abs S n i (.msg slots u)) (.w .reset)).1 := by
  show abs S n i (emptyMsg S i) = emptyMsg S i
  exact repNorm_emptyMsg S n i

/-- `Reset()` on the nil receiver is a nil-pointer dereference (`*x = T{}`): it panics, the message stays nil. -/
theorem C19_reset_nil_panics (S : Schema) (i : Nat) :
    Reflect.step S i .none (.w .reset) = (.none, .panic) := rfl

/-! ### Non-vacuity: the testpb.A-like schema of C08/C09 -/

def schemaA19 : Schema := ⟨[
  ⟨[⟨1, .scalar .enum, .singular⟩, ⟨2, .scalar .bool, .singular⟩, ⟨3, .scalar .int32, .singular⟩,
    ⟨15, .scalar .string, .singular⟩, ⟨16, .scalar .bytes, .singular⟩, ⟨17, .message 1, .singular⟩,
    ⟨18, .message 1, .map .string⟩, ⟨19, .message 1, .repeated false⟩, ⟨20, .message 1, .oneof 0⟩,
    ⟨21, .scalar .string, .oneof 0⟩, ⟨22, .scalar .enum, .repeated true⟩, ⟨23, .message 2, .singular⟩]⟩,
  ⟨[⟨1, .scalar .string, .singular⟩]⟩,
  ⟨[]⟩]⟩

def msgB19 (b : Bytes) : Val := .msg [.blob false b] []

/-- A{ INT32: 7, BYTES: non-nil empty, MESSAGE: B{"hi"}, MAP: 2 entries, LIST: [B{"q"}], ONEOF_STRING: "s",
       LIST_ENUM: allocated-empty } with unknown bytes -/
def stateA19 : Val := .msg
  [.bits 0, .bits 0, .bits 7, .blob false [], .blob true [], msgB19 [104, 105],
   .map true [.entry (.blob false [98]) (msgB19 [120]), .entry (.blob false [97]) (msgB19 [])],
   .list true [msgB19 [113]], .none, .one (.blob false [115]), .list true [], .none] [0x98, 0x3f, 0x01]

example : schemaA19.WF = true := by decide
example : msgOK schemaA19 false 3 0 stateA19 = true := by decide

-- getters, evaluated: scalar, message pointer, map, list, inactive / active oneof member, allocated-empty list
example : (Reflect.step schemaA19 0 stateA19 (.r (.getter 2))).2 = .bits 7 := rfl
example : (Reflect.step schemaA19 0 stateA19 (.r (.getter 5))).2 = .msgv true := rfl
example : (Reflect.step schemaA19 0 stateA19 (.r (.getter 11))).2 = .msgv false := rfl
example : (Reflect.step schemaA19 0 stateA19 (.r (.getter 6))).2 = .gmap 2 := rfl
example : (Reflect.step schemaA19 0 stateA19 (.r (.get 6))).2 = .mapv true 2 := rfl
example : (Reflect.step schemaA19 0 stateA19 (.r (.getter 7))).2 = .glist 1 := rfl
example : (Reflect.step schemaA19 0 stateA19 (.r (.getter 8))).2 = .msgv false := rfl
example : (Reflect.step schemaA19 0 stateA19 (.r (.getter 9))).2 = .str [115] := rfl
example : (Reflect.step schemaA19 0 stateA19 (.r (.getter 10))).2 = .glist 0 := rfl
example : (Reflect.step schemaA19 0 stateA19 (.r (.get 10))).2 = .listv false 0 := rfl
example : (Reflect.step schemaA19 0 stateA19 (.r (.getter 12))).2 = .panic := rfl
-- nested: through the message field, through a list element, through a map value, through an unset field (nil)
example : (Reflect.step schemaA19 0 stateA19 (.in 5 (.r (.getter 0)))).2 = .str [104, 105] := rfl
example : (Reflect.step schemaA19 0 stateA19 (.at 7 0 (.r (.getter 0)))).2 = .str [113] := rfl
example : (Reflect.step schemaA19 0 stateA19 (.mv 6 (.blob false [98]) (.r (.getter 0)))).2 = .str [120] := rfl
example : (Reflect.step schemaA19 0 stateA19 (.in 8 (.r (.getter 0)))).2 = .str [] := rfl
-- the SPEC machine gives the same tokens
example : (SpecReflect.step schemaA19 0 (abs schemaA19 3 0 stateA19) (.r (.getter 6))).2 = .gmap 2 := rfl
example : (SpecReflect.step schemaA19 0 (abs schemaA19 3 0 stateA19) (.r (.getter 10))).2 = .glist 0 := rfl
-- the theorem, instantiated (root, nil receiver, path)
example : GetterAgrees (Reflect.step schemaA19 0 stateA19 (.r (.getter 6))).2
    (Reflect.step schemaA19 0 stateA19 (.r (.get 6))).2 :=
  (C19_getters_eq_get_wf schemaA19 3 0 stateA19 6 (by decide)).2
example : GetterAgrees (.gmap 2) (.mapv true 2) := ⟨rfl, rfl⟩
example : ¬ GetterAgrees (.gmap 2) (.mapv true 3) := by simp [GetterAgrees]
example : ¬ GetterAgrees (.bits 7) (.bits 8) := by simp [GetterAgrees]
example : ¬ GetterAgrees (.msgv true) (.msgv false) := by simp [GetterAgrees]
example : (Reflect.step schemaA19 0 .none (.r (.getter 7))).2 = .glist 0 := rfl
example : Op.under [.in 5] (.r (.getter 0)) = .in 5 (.r (.getter 0)) := rfl
-- the typed-nil wrapper: getter and Get both answer the default
def stateNilWrap : Val := .msg
  [.bits 0, .bits 0, .bits 0, .blob false [], .blob false [], .none, .map false [], .list false [], .oneNil, .none,
   .list false [], .none] []
example : (Reflect.step schemaA19 0 stateNilWrap (.r (.getter 8))).2 = .msgv false := rfl
example : (Reflect.step schemaA19 0 stateNilWrap (.r (.get 8))).2 = .msgv false := rfl
example : (Reflect.step schemaA19 0 stateNilWrap (.r (.getter 9))).2 = .str [] := rfl   -- the sibling member is fine
example : msgOK schemaA19 false 3 0 stateNilWrap = false := by decide   -- … and the state is not junk-free
example : Reflect.step schemaA19 0 stateA19 (.w .reset) = (emptyMsg schemaA19 0, .ok) :=
  (C19_reset_is_empty schemaA19 0 _ _).1
example : (Reflect.step schemaA19 0 stateA19 (.r (.has 2))).2 = .bool true := rfl
example : (Reflect.step schemaA19 0 stateA19 (.r .getu)).2 = .unk [0x98, 0x3f, 0x01] := rfl
example : (Reflect.step schemaA19 0 (Reflect.step schemaA19 0 stateA19 (.w .reset)).1 (.r (.has 2))).2 = .bool false :=
  (C19_reset_is_empty schemaA19 0 _ _).2.1 2 (by decide)
example : (Reflect.step schemaA19 0 (emptyMsg schemaA19 0) (.r (.which 0))).2 = .which none := rfl

end Pulsar

#print axioms Pulsar.C19_getters_eq_get
#print axioms Pulsar.C19_getters_eq_get_nil
#print axioms Pulsar.C19_getters_eq_get_wf
#print axioms Pulsar.C19_getter_typed_nil_wrapper_default
#print axioms Pulsar.C19_getters_eq_get_at_path
#print axioms Pulsar.C19_reset_is_empty
#print axioms Pulsar.C19_reset_refines
#print axioms Pulsar.C19_reset_nil_panics
