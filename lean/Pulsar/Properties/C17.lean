/-
  C17 — timepb arithmetic is exact and normalised; Compare is chronological.
-/
import Pulsar.Proofs.Timepb
namespace Pulsar.Timepb

/-- For valid t and d, Add does not panic and returns a value denoting exactly t + d. -/
theorem C17_add_exact (t d : SN) (ht : ValidTS t) (hd : ValidDur d) :
    ∃ r, add (some t) d = .ok (some r) ∧ inst r = inst t + inst d :=
  ⟨_, add_valid ht hd, inst_addStdSpec t (inst d)⟩

/-- … in normalised form (nanos within [0,1e9)). -/
theorem C17_add_normalised (t d r : SN) (ht : ValidTS t) (hd : ValidDur d)
    (h : add (some t) d = .ok (some r)) : Normalised r := by
  rw [add_ok_inv ht.inRange ht.normalised hd h]
  exact normalised_addStdSpec t (inst d)

/-- … hence a valid Timestamp whenever the instant is representable (year 0001..9999). -/
theorem C17_add_valid (t d r : SN) (ht : ValidTS t) (hd : ValidDur d)
    (h : add (some t) d = .ok (some r))
    (hrep : -62135596800 * 1000000000 ≤ inst t + inst d ∧ inst t + inst d < (253402300799 + 1) * 1000000000) :
    ValidTS r := by
  have hr := add_ok_inv ht.inRange ht.normalised hd h
  subst hr
  simp only [addStdSpec, ValidTS]
  omega

/-- Add agrees with AddStd (exact `time` arithmetic) for valid inputs. -/
theorem C17_add_eq_addStd (t d : SN) (ht : ValidTS t) (hd : ValidDur d) :
    add (some t) d = .ok (some (addStdSpec t (inst d))) :=
  add_valid ht hd

/-- When the exact seconds sum does not fit in an int64, Add panics (for normalised t, valid d, any seconds). -/
theorem C17_add_overflow_panics (t d : SN) (ht : InRange t) (hn : Normalised t) (hd : ValidDur d)
    (hov : let total := inst t + inst d
           total / 1000000000 < -9223372036854775808 ∨ total / 1000000000 > 9223372036854775807) :
    add (some t) d = .panic :=
  (add_main t d ht hn hd).1 hov

/-- … and when it does fit, the result is exact and normalised (no wrapped value is ever returned). -/
theorem C17_add_no_wrap (t d r : SN) (ht : InRange t) (hn : Normalised t) (hd : ValidDur d)
    (h : add (some t) d = .ok (some r)) : inst r = inst t + inst d ∧ Normalised r := by
  rw [add_ok_inv ht hn hd h]
  exact ⟨inst_addStdSpec t (inst d), normalised_addStdSpec t (inst d)⟩

/-- nil in, nil out. -/
theorem C17_add_nil (d : SN) : add none d = .ok none := rfl

/-- Compare orders normalised timestamps exactly as their instants. -/
theorem C17_compare_chronological (a b : SN) (ha : Normalised a) (hb : Normalised b) :
    (compare a b = -1 ↔ inst a < inst b) ∧ (compare a b = 0 ↔ inst a = inst b) ∧
    (compare a b = 1 ↔ inst a > inst b) := by
  simp only [Normalised] at ha hb
  simp only [inst]
  rcases compare_cases a b with ⟨hc, h⟩ | ⟨hc, h⟩ | ⟨hc, h⟩ <;> rw [hc] <;> omega

/-- Compare is a total order on all (seconds, nanos) pairs: reflexive-zero, antisymmetric, transitive. -/
theorem C17_compare_total_order (a b c : SN) :
    (compare a a = 0) ∧ (compare a b = 0 → a = b) ∧ (compare a b = - compare b a) ∧
    (compare a b = -1 → compare b c = -1 → compare a c = -1) := by
  refine ⟨compare_eq ⟨rfl, rfl⟩, ?_, ?_, ?_⟩
  · intro h
    rcases compare_cases a b with ⟨hc, _⟩ | ⟨_, h1, h2⟩ | ⟨hc, _⟩
    · omega
    · cases a; cases b; simp only at h1 h2; rw [h1, h2]
    · omega
  · rcases compare_cases a b with ⟨hc, h⟩ | ⟨hc, h⟩ | ⟨hc, h⟩
    · rw [hc, compare_gt (a := b) (b := a) (by omega)]
    · rw [hc, compare_eq (a := b) (b := a) (by omega)]; decide
    · rw [hc, compare_lt (a := b) (b := a) (by omega)]; decide
  · intro h1 h2
    rcases compare_cases a b with ⟨_, hab⟩ | ⟨hc, _⟩ | ⟨hc, _⟩
    · rcases compare_cases b c with ⟨_, hbc⟩ | ⟨hc, _⟩ | ⟨hc, _⟩
      · exact compare_lt (by omega)
      · omega
      · omega
    · omega
    · omega

/-! ### the hypotheses are satisfiable on non-trivial concrete values -/

/-- borrow: 10s + (-5ns) = 9.999999995s -/
example : ValidTS ⟨10, 0⟩ ∧ ValidDur ⟨0, -5⟩ ∧
    add (some ⟨10, 0⟩) ⟨0, -5⟩ = .ok (some ⟨9, 999999995⟩) :=
  ⟨by unfold ValidTS; decide, by unfold ValidDur; decide, by decide⟩
/-- carry: 10.999999999s + 1ns = 11s -/
example : ValidTS ⟨10, 999999999⟩ ∧ ValidDur ⟨0, 1⟩ ∧
    add (some ⟨10, 999999999⟩) ⟨0, 1⟩ = .ok (some ⟨11, 0⟩) :=
  ⟨by unfold ValidTS; decide, by unfold ValidDur; decide, by decide⟩
/-- mixed: seconds and nanos, negative duration with borrow -/
example : ValidTS ⟨1700000000, 250000000⟩ ∧ ValidDur ⟨-3, -500000000⟩ ∧
    add (some ⟨1700000000, 250000000⟩) ⟨-3, -500000000⟩ = .ok (some ⟨1699999996, 750000000⟩) :=
  ⟨by unfold ValidTS; decide, by unfold ValidDur; decide, by decide⟩
/-- int64 overflow: must panic, never a wrapped value -/
example : InRange ⟨9223372036854775807, 1000⟩ ∧ Normalised ⟨9223372036854775807, 1000⟩ ∧
    ValidDur ⟨0, 999999999⟩ ∧
    add (some ⟨9223372036854775807, 1000⟩) ⟨0, 999999999⟩ = .panic :=
  ⟨by unfold InRange; decide, by unfold Normalised; decide, by unfold ValidDur; decide, by decide⟩
/-- int64 underflow: must panic -/
example : InRange ⟨-9223372036854775808, 0⟩ ∧ Normalised ⟨-9223372036854775808, 0⟩ ∧
    ValidDur ⟨0, -1⟩ ∧
    add (some ⟨-9223372036854775808, 0⟩) ⟨0, -1⟩ = .panic :=
  ⟨by unfold InRange; decide, by unfold Normalised; decide, by unfold ValidDur; decide, by decide⟩
/-- the `hov` hypothesis of `C17_add_overflow_panics` holds on both of those inputs,
    and the theorem itself (not just evaluation) yields the panic -/
example : add (some ⟨9223372036854775807, 1000⟩) ⟨0, 999999999⟩ = .panic :=
  C17_add_overflow_panics _ _ (by unfold InRange; decide) (by unfold Normalised; decide)
    (by unfold ValidDur; decide) (by simp only [inst]; decide)
example : add (some ⟨-9223372036854775808, 0⟩) ⟨0, -1⟩ = .panic :=
  C17_add_overflow_panics _ _ (by unfold InRange; decide) (by unfold Normalised; decide)
    (by unfold ValidDur; decide) (by simp only [inst]; decide)
/-- `hrep` of `C17_add_valid` is satisfiable (and its conclusion non-vacuous) -/
example : ValidTS ⟨9, 999999995⟩ :=
  C17_add_valid ⟨10, 0⟩ ⟨0, -5⟩ _ (by unfold ValidTS; decide) (by unfold ValidDur; decide)
    (by decide) (by simp only [inst]; decide)
/-- compare on concrete values -/
example : compare ⟨9, 999999995⟩ ⟨10, 0⟩ = -1 ∧ compare ⟨10, 0⟩ ⟨10, 0⟩ = 0 ∧
    compare ⟨10, 1⟩ ⟨10, 0⟩ = 1 := by decide

end Pulsar.Timepb

#print axioms Pulsar.Timepb.C17_add_exact
#print axioms Pulsar.Timepb.C17_add_normalised
#print axioms Pulsar.Timepb.C17_add_valid
#print axioms Pulsar.Timepb.C17_add_eq_addStd
#print axioms Pulsar.Timepb.C17_add_overflow_panics
#print axioms Pulsar.Timepb.C17_add_no_wrap
#print axioms Pulsar.Timepb.C17_add_nil
#print axioms Pulsar.Timepb.C17_compare_chronological
#print axioms Pulsar.Timepb.C17_compare_total_order
