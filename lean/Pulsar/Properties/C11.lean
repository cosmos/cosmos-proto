/-
  C11 — Concurrent readers of a shared message are race-free (the part that is logic).
  The Go memory model, the race detector's judgement, and protobuf-go's atomics for embedded
  well-known types are outside the model (see DESIGN): this file proves that, in the model of the
  generated code, read-only operations write nothing, so every interleaving of readers is equivalent to
  each reader running alone; the `race` engine runs the real code under the race detector.
-/
import Pulsar.Reflect
import Pulsar.Proofs.Slots
namespace Pulsar
open Reflect

/-- A read-only operation (Size, Marshal, Has, Get, Range, WhichOneof, GetUnknown, list/map reads, at any
    nesting path) leaves every field of the Go struct unchanged, down to nil-versus-empty containers. -/
theorem C11_reads_write_nothing (S : Schema) (i : Nat) (s : Val) (op : Op) (h : op.isWrite = false) :
    (Reflect.step S i s op).1 = s := by
  simp [Reflect.step, h]

theorem run_reads_aux (S : Schema) (i : Nat) (s : Val) (ops : List Op) (acc : List Out)
    (h : ∀ op ∈ ops, op.isWrite = false) :
    ops.foldl (fun a op => let r := Reflect.step S i a.1 op; (r.1, a.2 ++ [r.2])) (s, acc)
      = (s, acc ++ ops.map (fun op => (Reflect.step S i s op).2)) := by
  induction ops generalizing acc with
  | nil => simp
  | cons op rest ih =>
    have hop : op.isWrite = false := h op (by simp)
    have hrest : ∀ o ∈ rest, o.isWrite = false := fun o ho => h o (by simp [ho])
    simp only [List.foldl_cons, List.map_cons]
    rw [C11_reads_write_nothing S i s op hop, ih _ hrest]
    simp

/-- A history of read-only operations never changes the message and every operation returns exactly
    what it returns on the initial message: outputs do not depend on what other readers did before. -/
theorem C11_read_history (S : Schema) (i : Nat) (s : Val) (ops : List Op)
    (h : ∀ op ∈ ops, op.isWrite = false) :
    Reflect.run S i s ops = (s, ops.map (fun op => (Reflect.step S i s op).2)) := by
  unfold Reflect.run
  simpa using run_reads_aux S i s ops [] h

/-- Interleaving: take any interleaving `tagged` of the read-only operation lists of several readers
    (each operation tagged with its reader). What reader `t` observes inside the interleaving is exactly
    what it observes running alone on the same message. -/
theorem C11_interleaving (S : Schema) (i : Nat) (s : Val) (tagged : List (Nat × Op))
    (h : ∀ p ∈ tagged, p.2.isWrite = false) (t : Nat) :
    ((tagged.zip (Reflect.run S i s (tagged.map Prod.snd)).2).filter (fun p => p.1.1 == t)).map (·.2)
      = (Reflect.run S i s ((tagged.filter (fun p => p.1 == t)).map Prod.snd)).2 := by
  have h1 : ∀ op ∈ tagged.map Prod.snd, op.isWrite = false := by
    intro op hop
    obtain ⟨p, hp, rfl⟩ := List.mem_map.mp hop
    exact h p hp
  have h2 : ∀ op ∈ (tagged.filter (fun p => p.1 == t)).map Prod.snd, op.isWrite = false := by
    intro op hop
    obtain ⟨p, hp, rfl⟩ := List.mem_map.mp hop
    exact h p (List.mem_filter.mp hp).1
  rw [C11_read_history S i s _ h1, C11_read_history S i s _ h2]
  -- pairing each op with its output, filtering and projecting commute with `map`
  simp only [List.map_map, zip_self_map, List.filter_map]
  rfl

-- non-vacuity: a history of reads on a concrete message
example : (Reflect.run ⟨[⟨[⟨1, .scalar .int32, .singular⟩, ⟨2, .scalar .string, .repeated false⟩]⟩]⟩ 0
    (.msg [.bits 5, .list true [.blob false [104]]] [])
    [.r (.has 0), .r (.get 0), .r (.llen 1), .r .size, .r (.has 1)]).1
    = .msg [.bits 5, .list true [.blob false [104]]] [] := by
  rw [C11_read_history _ _ _ _ (by intro op h; simp at h; rcases h with rfl | rfl | rfl | rfl | rfl <;> rfl)]

end Pulsar

#print axioms Pulsar.C11_reads_write_nothing
#print axioms Pulsar.C11_read_history
#print axioms Pulsar.C11_interleaving
