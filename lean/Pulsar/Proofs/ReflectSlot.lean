/-
  One field of the reflection machines: every field-level read and write of the generated reflection
  (`Reflect.hasF`, `getF`, `setF`, … the list and map views) agrees with the reference one on the abstraction of
  the slot (`repSlot`), and a write keeps the slot well typed (`FWrel`, `FWok`).
-/
import Pulsar.Proofs.ReflectSort
import Pulsar.Proofs.Slots
namespace Pulsar

theorem repSlot_zero (c : Nat → Val → Val) (f : FieldDesc) : repSlot c f f.zero = f.zero := by
  unfold repSlot FieldDesc.zero
  cases f.shape <;> cases f.elem <;> try rfl
  rename_i k
  simp only [repElem]
  cases k.isBlob <;> rfl

theorem repNorm_emptyMsg (S : Schema) (fuel i : Nat) : repNorm S fuel i (emptyMsg S i) = emptyMsg S i := by
  cases fuel with
  | zero => rfl
  | succ n =>
    simp only [repNorm, emptyMsg, zip_map_self (fun f v => repSlot (repNorm S n) f v)]
    congr 1
    exact List.map_congr_left (fun f _ => repSlot_zero _ f)

/-! ### elements -/

section
variable (S : Schema) (fuel : Nat)

theorem repElem_isNone (e : Elem) (v : Val) : (repElem (repNorm S fuel) e v).isNone = v.isNone := by
  cases e with
  | scalar k => cases v <;> rfl
  | message i =>
    simp only [repElem]
    split
    · rfl
    · exact repNorm_isNone S fuel i v

theorem outElem_repElem (e : Elem) (v : Val) : outElem e (repElem (repNorm S fuel) e v) = outElem e v := by
  cases e with
  | scalar k => simp only [outElem, repScalar_getBits, repScalar_getBlob]
  | message i => simp only [outElem, repElem_isNone]

theorem kbeqOf_repElem_left (c : Nat → Val → Val) (kk k' : Kind) (a b : Val) :
    kbeqOf kk (repElem c (.scalar k') a) b = kbeqOf kk a b := by
  simp only [kbeqOf, repScalar_getBits, repScalar_getBlob]

theorem kbeqOf_repElem_right (c : Nat → Val → Val) (kk k' : Kind) (a b : Val) :
    kbeqOf kk a (repElem c (.scalar k') b) = kbeqOf kk a b := by
  simp only [kbeqOf, repScalar_getBits, repScalar_getBlob]

theorem any_map_normEntry (c : Nat → Val → Val) (kk : Kind) (e : Elem) (L : List Val) (k : Val) :
    (L.map (normEntry c kk e)).any (fun en => kbeqOf kk en.key k) = L.any (fun en => kbeqOf kk en.key k) := by
  rw [List.any_map]
  congr 1
  funext en
  simp only [Function.comp, normEntry_key, kbeqOf_repElem_left]

theorem findEntry_map_normEntry (c : Nat → Val → Val) (kk : Kind) (e : Elem) (L : List Val) (k : Val) :
    findEntry kk (L.map (normEntry c kk e)) k = (findEntry kk L k).map (normEntry c kk e) := by
  unfold findEntry
  rw [List.find?_map]
  congr 2
  funext en
  simp only [Function.comp, normEntry_key, kbeqOf_repElem_left]

theorem any_sort_normEntry (c : Nat → Val → Val) (kk : Kind) (e : Elem) (L : List Val) (k : Val) :
    (sortEntries kk (L.map (normEntry c kk e))).any (fun en => kbeqOf kk en.key k)
      = L.any (fun en => kbeqOf kk en.key k) := by
  rw [(sortEntries_perm _ _).any_eq, any_map_normEntry]

theorem findEntry_sort_normEntry (c : Nat → Val → Val) (kk : Kind) (e : Elem) {L : List Val}
    (hd : distinctKeys kk L = true) (k : Val) :
    findEntry kk (sortEntries kk (L.map (normEntry c kk e))) k = (findEntry kk L k).map (normEntry c kk e) := by
  rw [findEntry_perm k (sortEntries_perm _ _)
      (distinctKeys_perm (sortEntries_perm _ _).symm (distinctKeys_map_normEntry c kk e hd)), findEntry_map_normEntry]

theorem mapPut_map_normEntry (c : Nat → Val → Val) (kk : Kind) (e : Elem) (L : List Val) (k x : Val) :
    (mapPut (kbeqOf kk) L k x).map (normEntry c kk e)
      = mapPut (kbeqOf kk) (L.map (normEntry c kk e)) (repElem c (.scalar kk) k) (repElem c e x) :=
  map_mapPut (normEntry c kk e) k x (repElem c (.scalar kk) k) (repElem c e x)
    (fun en => by rw [normEntry_key, kbeqOf_repElem_left, kbeqOf_repElem_right]) rfl L

theorem mapDel_map_normEntry (c : Nat → Val → Val) (kk : Kind) (e : Elem) (L : List Val) (k : Val) :
    (mapDel kk L k).map (normEntry c kk e) = mapDel kk (L.map (normEntry c kk e)) k := by
  unfold mapDel
  rw [List.filter_map]
  congr 2
  funext en
  simp only [Function.comp, normEntry_key, kbeqOf_repElem_left]

end

theorem keysOK_map_normEntry {child : Nat → Val → Bool} (c : Nat → Val → Val) {kk : Kind} {e : Elem} {es : List Val}
    (h : es.all (entryOK child false kk e) = true) : ∀ en ∈ es.map (normEntry c kk e), scalarOK kk en.key = true := by
  intro x hx
  obtain ⟨a, ha, rfl⟩ := List.mem_map.1 hx
  rw [scalarOK_normEntry_key]
  exact entryOK_key (List.all_eq_true.1 h a ha)

/-! ### reads -/

theorem hasF_zero (f : FieldDesc) : Reflect.hasF f f.zero = false := by
  unfold Reflect.hasF FieldDesc.zero
  cases f.shape <;> cases f.elem <;> try rfl
  rename_i k
  cases k <;> rfl

theorem spec_hasF_zero (f : FieldDesc) : SpecReflect.hasF f f.zero = false := by
  unfold SpecReflect.hasF FieldDesc.zero
  cases f.shape <;> cases f.elem <;> try rfl
  rename_i k
  cases k <;> rfl

section
variable (S : Schema) (fuel : Nat)

theorem hasF_refines {f : FieldDesc} {v : Val} (hv : slotOK (msgOK S false fuel) false f v = true) :
    SpecReflect.hasF f (repSlot (repNorm S fuel) f v) = Reflect.hasF f v := by
  cases hs : f.shape with
  | singular =>
    simp only [SpecReflect.hasF, Reflect.hasF, hs, repSlot_singular hs]
    cases he : f.elem with
    | scalar k =>
      simp only [← implPresent_eq_spec]
      cases k <;> simp only [implPresent, repScalar_getBits, repScalar_getBlob]
    | message i => simp only [repElem_isNone]
  | oneof g =>
    simp only [SpecReflect.hasF, Reflect.hasF, hs, repSlot_oneof hs]
    rcases slotOK_oneof_junkfree hs hv with rfl | ⟨x, rfl, _⟩ <;> rfl
  | repeated p =>
    simp only [SpecReflect.hasF, Reflect.hasF, hs, repSlot_repeated hs, Val.elems_list, List.length_map]
    cases v.elems <;> simp
  | map kk =>
    simp only [SpecReflect.hasF, Reflect.hasF, hs, repSlot_map hs, Val.elems_map, length_sortEntries,
      List.length_map]
    cases v.elems <;> simp

theorem getF_refines {f : FieldDesc} {v : Val} (hv : slotOK (msgOK S false fuel) false f v = true) :
    SpecReflect.getF f (repSlot (repNorm S fuel) f v) = Reflect.getF f v := by
  cases hs : f.shape with
  | singular =>
    simp only [SpecReflect.getF, Reflect.getF, hs, repSlot_singular hs, outElem_repElem]
  | oneof g =>
    simp only [SpecReflect.getF, Reflect.getF, hs, repSlot_oneof hs]
    rcases slotOK_oneof_junkfree hs hv with rfl | ⟨x, rfl, _⟩
    · rfl
    · simp only [outElem_repElem]
  | repeated p =>
    simp only [SpecReflect.getF, Reflect.getF, hs, repSlot_repeated hs, Val.elems_list, List.length_map]
    cases v.elems <;> simp
  | map kk =>
    simp only [SpecReflect.getF, Reflect.getF, hs, repSlot_map hs, Val.elems_map, length_sortEntries,
      List.length_map]
    cases v.elems <;> simp
end

/-! ### writes -/

/-- the SPEC outcome is the abstraction of the IMPL outcome -/
def FWrel (c : Nat → Val → Val) (f : FieldDesc) : FW → FW → Prop
  | .panic, .panic => True
  | .put x, .put y => repSlot c f x = y
  | .putOne x, .putOne y => repElem c f.elem x = y
  | _, _ => False

/-- the IMPL outcome keeps the slot well-typed -/
def FWok (child : Nat → Val → Bool) (f : FieldDesc) : FW → Prop
  | .panic => True
  | .put x => slotOK child false f x = true
  | .putOne x => elemOK child f.elem false x = true

section
variable (S : Schema) (fuel : Nat)

theorem store_check {e : Elem} {a : Val} (ha : elemOK (msgOK S false fuel) e false a = true) :
    ∃ x, Reflect.storeElem e a = some x ∧
      SpecReflect.checkElem e (repElem (repNorm S fuel) e a) = some (repElem (repNorm S fuel) e x) ∧
      elemOK (msgOK S false fuel) e false x = true := by
  cases e with
  | scalar k =>
    simp only [elemOK] at ha
    by_cases hk : k.isBlob = true
    · obtain ⟨nn, b, rfl⟩ := scalarOK_blob ha hk
      cases k <;> simp [Kind.isBlob] at hk
      · exact ⟨.blob false b, by simp [Reflect.storeElem], by simp [SpecReflect.checkElem, repElem, Kind.isBlob],
          by simp [elemOK, scalarOK, Kind.isBlob]⟩
      · exact ⟨.blob nn b, by simp [Reflect.storeElem], by simp [SpecReflect.checkElem, repElem, Kind.isBlob],
          by simp [elemOK, scalarOK, Kind.isBlob]⟩
    · have hk' : k.isBlob = false := by simpa using hk
      obtain ⟨n, rfl, _⟩ := scalarOK_bits ha hk'
      exact ⟨.bits n, by simp [Reflect.storeElem, hk'], by simp [SpecReflect.checkElem, repElem, hk'],
        by simpa [elemOK] using ha⟩
  | message i =>
    simp only [elemOK, Val.isNone, Bool.and_false, Bool.false_or] at ha
    have ha' : msgOK S false fuel i a = true := by
      cases a <;> simpa using ha
    obtain ⟨s, u, rfl⟩ := msgOK_isMsg ha'
    obtain ⟨s', hs'⟩ := repNorm_msg S fuel i s u
    refine ⟨.msg s u, rfl, ?_, by simpa [elemOK] using ha'⟩
    simp [SpecReflect.checkElem, repElem, Val.isNone, hs']

theorem storeElem_scalar_bits {kk : Kind} {k k' : Val} (h : Reflect.storeElem (.scalar kk) k = some k') :
    k'.getBits = k.getBits ∧ k'.getBlob = k.getBlob := by
  cases k <;> simp only [Reflect.storeElem, reduceCtorEq] at h
  · split at h <;> simp only [Option.some.injEq, reduceCtorEq] at h
    subst h; exact ⟨rfl, rfl⟩
  · split at h
    · simp only [Option.some.injEq] at h; subst h; exact ⟨rfl, rfl⟩
    · split at h <;> simp only [Option.some.injEq, reduceCtorEq] at h
      subst h; exact ⟨rfl, rfl⟩

theorem setF_refines {f : FieldDesc} {a : Val} (ha : setArgOK (msgOK S false fuel) f a = true) :
    FWrel (repNorm S fuel) f (Reflect.setF f a) (SpecReflect.setF f (absArg (repNorm S fuel) f a)) ∧
    FWok (msgOK S false fuel) f (Reflect.setF f a) := by
  cases hs : f.shape with
  | singular =>
    simp only [setArgOK, hs] at ha
    obtain ⟨x, h1, h2, h3⟩ := store_check S fuel ha
    simp only [Reflect.setF, SpecReflect.setF, absArg, hs, h1, h2, FWrel, FWok, repSlot_singular hs,
      slotOK, elemOK_weaken h3, and_self]
  | oneof g =>
    simp only [setArgOK, hs] at ha
    obtain ⟨x, h1, h2, h3⟩ := store_check S fuel ha
    simp only [Reflect.setF, SpecReflect.setF, absArg, hs, h1, h2, FWrel, FWok, h3, and_self]
  | repeated p =>
    simp only [setArgOK, hs] at ha
    obtain ⟨nn, es, rfl, hes⟩ := (slotOK_repeated_iff hs).1 ha
    cases nn
    · simp [Reflect.setF, SpecReflect.setF, absArg, hs, FWrel, FWok]
    · simp only [Reflect.setF, SpecReflect.setF, absArg, hs, FWrel, FWok, repSlot_repeated hs,
        Val.elems_list, true_and]
      simpa [slotOK, hs] using hes
  | map kk =>
    simp only [setArgOK, hs] at ha
    obtain ⟨nn, es, rfl, hes, hd⟩ := (slotOK_map_iff hs).1 ha
    cases nn
    · simp [Reflect.setF, SpecReflect.setF, absArg, hs, FWrel, FWok]
    · simp only [Reflect.setF, SpecReflect.setF, absArg, hs, FWrel, FWok, repSlot_map hs,
        Val.elems_map]
      refine ⟨rfl, ?_⟩
      simpa [slotOK, hs] using ha

theorem clearF_refines (f : FieldDesc) :
    FWrel (repNorm S fuel) f (Reflect.clearF f) (SpecReflect.clearF f) ∧
    FWok (msgOK S false fuel) f (Reflect.clearF f) := by
  simp only [Reflect.clearF, SpecReflect.clearF, FWrel, FWok, repSlot_zero, slotOK_zero, and_self]

end

section
variable (S : Schema) (fuel : Nat)

theorem mutF_refines {f : FieldDesc} {v : Val} (hv : slotOK (msgOK S false (fuel+1)) false f v = true) :
    FWrel (repNorm S (fuel+1)) f (Reflect.mutF S f v) (SpecReflect.mutF S f (repSlot (repNorm S (fuel+1)) f v)) ∧
    FWok (msgOK S false (fuel+1)) f (Reflect.mutF S f v) := by
  cases hs : f.shape with
  | singular =>
    cases he : f.elem with
    | scalar k => simp [Reflect.mutF, SpecReflect.mutF, hs, he, FWrel, FWok]
    | message mi =>
      have hv' := (slotOK_singular_iff hs).1 hv
      simp only [Reflect.mutF, SpecReflect.mutF, hs, he, FWrel, FWok, repSlot_singular hs, repElem_isNone]
      cases hn : v.isNone
      · simp only [Bool.false_eq_true, if_false, slotOK, hs, hv', and_self]
      · simp only [if_true, repElem, he, slotOK, hs, elemOK, msgOK_emptyMsg, Bool.or_true, and_true]
        rw [repNorm_emptyMsg]; simp
  | repeated p =>
    obtain ⟨nn, es, rfl, hes⟩ := (slotOK_repeated_iff hs).1 hv
    simp only [Reflect.mutF, SpecReflect.mutF, hs, FWrel, FWok, repSlot_repeated hs, Val.elems_list,
      true_and]
    simpa [slotOK, hs] using hes
  | map kk =>
    obtain ⟨nn, es, rfl, hes, hd⟩ := (slotOK_map_iff hs).1 hv
    simp only [Reflect.mutF, SpecReflect.mutF, hs, FWrel, FWok, repSlot_map hs, Val.elems_map,
      true_and]
    simpa [slotOK, hs] using hv
  | oneof g =>
    cases he : f.elem with
    | scalar k => simp [Reflect.mutF, SpecReflect.mutF, hs, he, FWrel, FWok]
    | message mi =>
      rcases slotOK_oneof_junkfree hs hv with rfl | ⟨x, rfl, hx⟩
      · simp only [Reflect.mutF, SpecReflect.mutF, hs, he, FWrel, FWok, repSlot_oneof hs, repElem,
          elemOK, msgOK_emptyMsg, Bool.or_true, and_true]
        simp only [emptyMsg, Val.isNone, Bool.false_eq_true, if_false]
        exact repNorm_emptyMsg S (fuel+1) mi
      · have hxn : x ≠ Val.none := by
          rintro rfl
          simp [elemOK, he, msgOK, msgOKLvl, Val.isNone] at hx
        cases x with
        | none => exact absurd rfl hxn
        | _ =>
          simp only [Reflect.mutF, SpecReflect.mutF, hs, he, FWrel, FWok, repSlot_oneof hs, true_and]
          exact hv
end

/-! ### list views -/

section
variable (S : Schema) (fuel : Nat)

theorem lsetF_refines {f : FieldDesc} {v a : Val} (i : Nat)
    (hv : slotOK (msgOK S false fuel) false f v = true) (ha : elemOK (msgOK S false fuel) f.elem false a = true) :
    FWrel (repNorm S fuel) f (Reflect.lsetF f v i a)
      (SpecReflect.lsetF f (repSlot (repNorm S fuel) f v) i (repElem (repNorm S fuel) f.elem a)) ∧
    FWok (msgOK S false fuel) f (Reflect.lsetF f v i a) := by
  cases hs : f.shape with
  | repeated p =>
    obtain ⟨nn, es, rfl, hes⟩ := (slotOK_repeated_iff hs).1 hv
    have hes := List.all_eq_true.2 hes
    obtain ⟨x, h1, h2, h3⟩ := store_check S fuel ha
    simp only [Reflect.lsetF, SpecReflect.lsetF, hs, h1, h2, repSlot_repeated hs, Val.elems_list,
      List.length_map]
    by_cases hi : i < es.length
    · simp only [hi, if_true, FWrel, FWok, repSlot_repeated hs, Val.elems_list, List.map_set, true_and]
      simpa [slotOK, hs] using all_set _ es i x hes h3
    · simp [hi, FWrel, FWok]
  | _ => simp [Reflect.lsetF, SpecReflect.lsetF, hs, FWrel, FWok]

theorem lappF_refines {f : FieldDesc} {v a : Val}
    (hv : slotOK (msgOK S false fuel) false f v = true) (ha : elemOK (msgOK S false fuel) f.elem false a = true) :
    FWrel (repNorm S fuel) f (Reflect.lappF f v a)
      (SpecReflect.lappF f (repSlot (repNorm S fuel) f v) (repElem (repNorm S fuel) f.elem a)) ∧
    FWok (msgOK S false fuel) f (Reflect.lappF f v a) := by
  cases hs : f.shape with
  | repeated p =>
    obtain ⟨nn, es, rfl, hes⟩ := (slotOK_repeated_iff hs).1 hv
    have hes := List.all_eq_true.2 hes
    obtain ⟨x, h1, h2, h3⟩ := store_check S fuel ha
    simp only [Reflect.lappF, SpecReflect.lappF, hs, h1, h2, repSlot_repeated hs, Val.elems_list,
      FWrel, FWok, List.map_append, List.map_cons, List.map_nil, true_and]
    simp [slotOK, hs, hes, h3]
  | _ => simp [Reflect.lappF, SpecReflect.lappF, hs, FWrel, FWok]

theorem repElem_emptyMsg (mi : Nat) :
    repElem (repNorm S fuel) (.message mi) (emptyMsg S mi) = emptyMsg S mi := by
  simp only [repElem, emptyMsg, Val.isNone, Bool.false_eq_true, if_false]
  exact repNorm_emptyMsg S fuel mi

theorem lappmF_refines {f : FieldDesc} {v : Val}
    (hv : slotOK (msgOK S false (fuel+1)) false f v = true) :
    FWrel (repNorm S (fuel+1)) f (Reflect.lappmF S f v)
      (SpecReflect.lappmF S f (repSlot (repNorm S (fuel+1)) f v)) ∧
    FWok (msgOK S false (fuel+1)) f (Reflect.lappmF S f v) := by
  cases hs : f.shape with
  | repeated p =>
    obtain ⟨nn, es, rfl, hes⟩ := (slotOK_repeated_iff hs).1 hv
    have hes := List.all_eq_true.2 hes
    cases he : f.elem with
    | scalar k => simp [Reflect.lappmF, SpecReflect.lappmF, hs, he, FWrel, FWok]
    | message mi =>
      simp only [he] at hes
      simp only [Reflect.lappmF, SpecReflect.lappmF, hs, he, repSlot_repeated hs, Val.elems_list,
        FWrel, FWok, List.map_append, List.map_cons, List.map_nil, repElem_emptyMsg, true_and]
      simp [slotOK, hs, he, hes, elemOK, msgOK_emptyMsg]
  | _ => simp [Reflect.lappmF, SpecReflect.lappmF, hs, FWrel, FWok]

theorem ltruncF_refines {f : FieldDesc} {v : Val} (n : Nat)
    (hv : slotOK (msgOK S false fuel) false f v = true) :
    FWrel (repNorm S fuel) f (Reflect.ltruncF f v n)
      (SpecReflect.ltruncF f (repSlot (repNorm S fuel) f v) n) ∧
    FWok (msgOK S false fuel) f (Reflect.ltruncF f v n) := by
  cases hs : f.shape with
  | repeated p =>
    obtain ⟨nn, es, rfl, hes⟩ := (slotOK_repeated_iff hs).1 hv
    have hes := List.all_eq_true.2 hes
    simp only [Reflect.ltruncF, SpecReflect.ltruncF, hs, repSlot_repeated hs, Val.elems_list,
      List.length_map]
    by_cases hi : n ≤ es.length
    · simp only [hi, if_true, FWrel, FWok, repSlot_repeated hs, Val.elems_list, List.map_take, true_and]
      simpa [slotOK, hs] using all_take _ es n hes
    · simp [hi, FWrel, FWok]
  | _ => simp [Reflect.ltruncF, SpecReflect.ltruncF, hs, FWrel, FWok]
end

/-! ### map views -/

/-- a key argument reaches the SPEC machine as it is (`WOp.abs` leaves keys alone): `checkElem` drops the flag -/
theorem store_check_key (S : Schema) (fuel : Nat) {kk : Kind} {k : Val} (hk : scalarOK kk k = true) :
    ∃ k', Reflect.storeElem (.scalar kk) k = some k' ∧
      SpecReflect.checkElem (.scalar kk) k = some (repElem (repNorm S fuel) (.scalar kk) k') ∧
      scalarOK kk k' = true := by
  obtain ⟨k', h1, h2, h3⟩ := store_check S fuel (e := .scalar kk) (a := k) hk
  refine ⟨k', h1, ?_, h3⟩
  rw [← h2]
  cases k <;> rfl

section
variable (S : Schema) (fuel : Nat)

theorem msetF_refines {f : FieldDesc} {v k a : Val}
    (hv : slotOK (msgOK S false fuel) false f v = true) (hk : keyArgOK f k = true)
    (ha : elemOK (msgOK S false fuel) f.elem false a = true) :
    FWrel (repNorm S fuel) f (Reflect.msetF f v k a)
      (SpecReflect.msetF f (repSlot (repNorm S fuel) f v) k (repElem (repNorm S fuel) f.elem a)) ∧
    FWok (msgOK S false fuel) f (Reflect.msetF f v k a) := by
  cases hs : f.shape with
  | map kk =>
    obtain ⟨nn, es, rfl, hes, hd⟩ := (slotOK_map_iff hs).1 hv
    have hes := List.all_eq_true.2 hes
    simp only [keyArgOK, hs] at hk
    obtain ⟨k', hk1, hk2, hk3⟩ := store_check_key S fuel hk
    obtain ⟨x, h1, h2, h3⟩ := store_check S fuel ha
    simp only [Reflect.msetF, SpecReflect.msetF, hs, hk1, hk2, h1, h2, repSlot_map hs, Val.elems_map,
      FWrel, FWok]
    constructor
    · rw [mapPut_map_normEntry]
      rw [sort_mapPut_sort _ _ (distinctKeys_map_normEntry _ kk f.elem hd)
        (keysOK_map_normEntry _ hes) (by rw [scalarOK_rep]; exact hk3)]
    · refine slotOK_map_intro hs true (all_mapPut _ es k' x hes ?_) (distinctKeys_mapPut k' x hd)
      simp [entryOK, hk3, h3]
  | _ => simp [Reflect.msetF, SpecReflect.msetF, hs, FWrel, FWok]

theorem mclrF_refines {f : FieldDesc} {v : Val} (k : Val)
    (hv : slotOK (msgOK S false fuel) false f v = true) :
    FWrel (repNorm S fuel) f (Reflect.mclrF f v k)
      (SpecReflect.mclrF f (repSlot (repNorm S fuel) f v) k) ∧
    FWok (msgOK S false fuel) f (Reflect.mclrF f v k) := by
  cases hs : f.shape with
  | map kk =>
    obtain ⟨nn, es, rfl, hes, hd⟩ := (slotOK_map_iff hs).1 hv
    have hes := List.all_eq_true.2 hes
    simp only [Reflect.mclrF, SpecReflect.mclrF, hs, repSlot_map hs, Val.elems_map, FWrel, FWok]
    constructor
    · rw [mapDel_map_normEntry, sort_mapDel _ (distinctKeys_map_normEntry _ kk f.elem hd)
        (keysOK_map_normEntry _ hes)]
    · exact slotOK_map_intro hs true (all_filter _ _ hes) (distinctKeys_mapDel k hd)
  | _ => simp [Reflect.mclrF, SpecReflect.mclrF, hs, FWrel, FWok]

theorem mmutF_refines {f : FieldDesc} {v k : Val}
    (hv : slotOK (msgOK S false (fuel+1)) false f v = true) (hk : keyArgOK f k = true) :
    FWrel (repNorm S (fuel+1)) f (Reflect.mmutF S f v k)
      (SpecReflect.mmutF S f (repSlot (repNorm S (fuel+1)) f v) k) ∧
    FWok (msgOK S false (fuel+1)) f (Reflect.mmutF S f v k) := by
  cases hs : f.shape with
  | map kk =>
    obtain ⟨nn, es, rfl, hes, hd⟩ := (slotOK_map_iff hs).1 hv
    have hes := List.all_eq_true.2 hes
    simp only [keyArgOK, hs] at hk
    obtain ⟨k', hk1, hk2, hk3⟩ := store_check_key S (fuel+1) hk
    cases he : f.elem with
    | scalar k0 => simp [Reflect.mmutF, SpecReflect.mmutF, hs, he, FWrel, FWok]
    | message mi =>
      simp only [he] at hes
      have hany : ((sortEntries kk (es.map (normEntry (repNorm S (fuel+1)) kk (.message mi)))).any
            (fun en => kbeqOf kk en.key (repElem (repNorm S (fuel+1)) (.scalar kk) k')))
          = es.any (fun en => kbeqOf kk en.key k') := by
        simp only [any_sort_normEntry, kbeqOf_repElem_right]
      simp only [Reflect.mmutF, SpecReflect.mmutF, hs, he, hk1, hk2, repSlot_map hs, Val.elems_map, hany]
      by_cases hex : es.any (fun en => kbeqOf kk en.key k') = true
      · simp only [hex, if_true, FWrel, FWok, repSlot_map hs, Val.elems_map, he, true_and]
        exact slotOK_map_intro hs true (by rw [he]; exact hes) hd
      · have hex' : es.any (fun en => kbeqOf kk en.key k') = false := by simpa using hex
        simp only [hex', Bool.false_eq_true, if_false, FWrel, FWok, repSlot_map hs, Val.elems_map, he]
        constructor
        · rw [List.map_append]
          simp only [List.map_cons, List.map_nil, normEntry, Val.key_entry, Val.value_entry, repElem_emptyMsg]
          have hnew : (es.map (normEntry (repNorm S (fuel+1)) kk (.message mi))).any (fun en => kbeqOf kk en.key
              (Val.entry (repElem (repNorm S (fuel+1)) (.scalar kk) k') (emptyMsg S mi)).key) = false := by
            simp only [any_map_normEntry, Val.key_entry, kbeqOf_repElem_right, hex']
          rw [sort_append_sort _ (distinctKeys_map_normEntry _ kk (.message mi) hd)
            (keysOK_map_normEntry _ hes)
            (by rw [Val.key_entry, scalarOK_rep]; exact hk3) hnew]
        · refine slotOK_map_intro hs true ?_ (distinctKeys_append_new _ hd (by simpa using hex'))
          rw [he, List.all_append, hes]
          simp [entryOK, hk3, elemOK, msgOK_emptyMsg]
  | _ => simp [Reflect.mmutF, SpecReflect.mmutF, hs, FWrel, FWok]
end

end Pulsar
