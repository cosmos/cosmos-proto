/-
  Pulsar.Proofs.Wire — lemmas about the protowire specification (`Pulsar/Wire.lean`) alone. Two ideas carry the rest:
  what a reader accepts is a non-empty prefix of the input, read the same way whatever follows; and `consume_induct`,
  the induction over accepted values and group bodies that every statement about `consumeValue` / `consumeGroup`
  goes through.
-/
import Pulsar.Wire
namespace Pulsar

theorem varint_lt_128 {x : Nat} (h : x < 128) : varint x = [x.toUInt8] := by
  rw [varint]; simp [h]

theorem varint_ge_128 {x : Nat} (h : 128 ≤ x) :
    varint x = (x % 128 + 128).toUInt8 :: varint (x / 128) := by
  rw [varint]; simp [Nat.not_lt.mpr h]

theorem varint_ne_nil (n : Nat) : varint n ≠ [] := by
  rw [varint]; split <;> simp

theorem varint_length_pos (n : Nat) : 0 < (varint n).length :=
  List.length_pos_iff.2 (varint_ne_nil n)

theorem div_128_lt_pow {x k : Nat} (h : x < 128 ^ (k + 1)) : x / 128 < 128 ^ k := by
  rw [Nat.div_lt_iff_lt_mul (by decide)]; rwa [Nat.pow_succ] at h

theorem varint_length_le : ∀ (k x : Nat), x < 128 ^ (k + 1) → (varint x).length ≤ k + 1 := by
  intro k
  induction k with
  | zero => intro x hx; rw [varint_lt_128 (by simpa using hx)]; simp
  | succ k ih =>
    intro x hx
    by_cases h : x < 128
    · rw [varint_lt_128 h]; simp
    · rw [varint_ge_128 (by omega)]
      have := ih _ (div_128_lt_pow hx)
      simp only [List.length_cons]; omega

theorem varint_length_ge : ∀ (k x : Nat), 128 ^ k ≤ x → k + 1 ≤ (varint x).length := by
  intro k
  induction k with
  | zero => exact fun x _ => varint_length_pos x
  | succ k ih =>
    intro x hx
    have h128 : 128 ≤ x := by
      have : 128 ^ 1 ≤ 128 ^ (k + 1) := Nat.pow_le_pow_right (by omega) (by omega)
      omega
    rw [varint_ge_128 h128]
    have : 128 ^ k ≤ x / 128 := by
      rw [Nat.le_div_iff_mul_le (by omega), ← Nat.pow_succ]
      exact hx
    have := ih _ this
    simp only [List.length_cons]; omega

/-! ## reading back what `varint` wrote -/

theorem toUInt8_toNat {n : Nat} (h : n < 256) : n.toUInt8.toNat = n := by
  simp [Nat.toUInt8, Nat.mod_eq_of_lt h]

theorem consumeVarintAux_varint (rest : Bytes) : ∀ (j n k shift acc : Nat), k + j = 9 → n < 2 * 128 ^ j →
    consumeVarintAux k shift acc (varint n ++ rest) = .ok (acc + n * 2 ^ shift, rest) := by
  intro j
  induction j with
  | zero =>
    intro n k shift acc hk hn
    have hk9 : k = 9 := by omega
    have hn2 : n < 2 := by simpa using hn
    rw [varint_lt_128 (by omega)]
    simp only [List.cons_append, List.nil_append, consumeVarintAux, hk9, if_true,
      toUInt8_toNat (show n < 256 by omega), hn2]
  | succ j ih =>
    intro n k shift acc hk hn
    have hk9 : k ≠ 9 := by omega
    by_cases h128 : n < 128
    · rw [varint_lt_128 h128]
      simp only [List.cons_append, List.nil_append, consumeVarintAux, hk9, if_false,
        toUInt8_toNat (show n < 256 by omega), h128, if_true]
    · have hge : 128 ≤ n := by omega
      rw [varint_ge_128 hge]
      have hb : (n % 128 + 128).toUInt8.toNat = n % 128 + 128 := toUInt8_toNat (by omega)
      simp only [List.cons_append, consumeVarintAux, hk9, if_false, hb]
      rw [if_neg (by omega)]
      have hdiv : n / 128 < 2 * 128 ^ j := by
        rw [Nat.div_lt_iff_lt_mul (by omega)]
        rw [Nat.pow_succ] at hn
        omega
      rw [ih (n / 128) (k + 1) (shift + 7) _ (by omega) hdiv]
      have e1 : n % 128 + 128 - 128 = n % 128 := by omega
      have e2 : (2 : Nat) ^ (shift + 7) = 128 * 2 ^ shift := by
        rw [Nat.pow_add]; simp [Nat.mul_comm]
      rw [e1, e2]
      have e3 : n / 128 * (128 * 2 ^ shift) = (128 * (n / 128)) * 2 ^ shift := by
        rw [← Nat.mul_assoc, Nat.mul_comm (n / 128) 128]
      have e4 : n * 2 ^ shift = (128 * (n / 128) + n % 128) * 2 ^ shift := by
        rw [Nat.div_add_mod]
      rw [e3, e4, Nat.add_mul]
      simp only [Res.ok.injEq, Prod.mk.injEq, and_true]
      omega

theorem consumeVarint_varint {n : Nat} (h : n < 18446744073709551616) (rest : Bytes) :
    consumeVarint (varint n ++ rest) = .ok (n, rest) := by
  unfold consumeVarint
  rw [consumeVarintAux_varint rest 9 n 0 0 0 (by omega) (by simpa using h)]
  simp

/-! ## what `consumeVarint` accepts is a prefix of the input -/

theorem consumeVarintAux_split (p : Bytes) : ∀ k s a v r, consumeVarintAux k s a p = .ok (v, r) →
    ∃ pre, pre ≠ [] ∧ p = pre ++ r ∧ ∀ t, consumeVarintAux k s a (pre ++ t) = .ok (v, t) := by
  induction p with
  | nil => intro k s a v r h; cases h
  | cons b tl ih =>
    intro k s a v r h
    rw [consumeVarintAux] at h
    split at h
    · split at h
      · cases h
        exact ⟨[b], by simp, rfl, fun t => by simp [consumeVarintAux, *]⟩
      · cases h
    · split at h
      · cases h
        exact ⟨[b], by simp, rfl, fun t => by simp [consumeVarintAux, *]⟩
      · obtain ⟨pre, _, rfl, hpre⟩ := ih _ _ _ _ _ h
        exact ⟨b :: pre, by simp, rfl, fun t => by simp [consumeVarintAux, *]⟩

theorem consumeVarint_split {p r : Bytes} {v : Nat} (h : consumeVarint p = .ok (v, r)) :
    ∃ pre, pre ≠ [] ∧ p = pre ++ r ∧ ∀ t, consumeVarint (pre ++ t) = .ok (v, t) :=
  consumeVarintAux_split p 0 0 0 v r h

theorem consumeVarint_append {p : Bytes} {v : Nat} {r : Bytes} (t : Bytes)
    (h : consumeVarint p = .ok (v, r)) : consumeVarint (p ++ t) = .ok (v, r ++ t) := by
  obtain ⟨pre, _, rfl, hpre⟩ := consumeVarint_split h
  rw [List.append_assoc, hpre]

theorem consumeVarint_suffix {p : Bytes} {v : Nat} {r : Bytes}
    (h : consumeVarint p = .ok (v, r)) : ∃ pre, p = pre ++ r := by
  obtain ⟨pre, _, hp, _⟩ := consumeVarint_split h
  exact ⟨pre, hp⟩

theorem consumeVarint_length {p : Bytes} {v : Nat} {r : Bytes}
    (h : consumeVarint p = .ok (v, r)) : r.length < p.length := by
  obtain ⟨pre, hne, rfl, _⟩ := consumeVarint_split h
  have := List.length_pos_iff.2 hne
  simp only [List.length_append]; omega

/-! ## tags -/

theorem consumeTag_inv {bs : Bytes} {num wt : Nat} {r : Bytes}
    (h : consumeTag bs = .ok (num, wt, r)) :
    ∃ wire, consumeVarint bs = .ok (wire, r) ∧ wire / 8 = num ∧ wire % 8 = wt ∧ 1 ≤ num ∧ num ≤ 2147483647 := by
  unfold consumeTag at h
  split at h
  · rename_i v rest hv
    simp only [] at h
    split at h
    · simp at h
    · split at h
      · simp at h
      · simp only [Res.ok.injEq, Prod.mk.injEq] at h
        obtain ⟨rfl, rfl, rfl⟩ := h
        exact ⟨v, hv, rfl, rfl, by omega, by omega⟩
  · simp at h
  · simp at h

theorem consumeTag_of_varint {bs : Bytes} {wire : Nat} {r : Bytes}
    (h : consumeVarint bs = .ok (wire, r)) (h1 : 1 ≤ wire / 8) (h2 : wire / 8 ≤ 2147483647) :
    consumeTag bs = .ok (wire / 8, wire % 8, r) := by
  unfold consumeTag
  simp only [h]
  rw [if_neg (by omega), if_neg (by omega)]

theorem consumeTag_append {p : Bytes} {num wt : Nat} {r : Bytes} (t : Bytes)
    (h : consumeTag p = .ok (num, wt, r)) : consumeTag (p ++ t) = .ok (num, wt, r ++ t) := by
  obtain ⟨wire, hv, rfl, rfl, h1, h2⟩ := consumeTag_inv h
  exact consumeTag_of_varint (consumeVarint_append t hv) h1 h2

theorem consumeTag_suffix {p : Bytes} {num wt : Nat} {r : Bytes}
    (h : consumeTag p = .ok (num, wt, r)) : ∃ pre, p = pre ++ r := by
  obtain ⟨wire, hv, _⟩ := consumeTag_inv h
  exact consumeVarint_suffix hv

theorem consumeTag_length {p : Bytes} {num wt : Nat} {r : Bytes}
    (h : consumeTag p = .ok (num, wt, r)) : r.length < p.length := by
  obtain ⟨wire, hv, _⟩ := consumeTag_inv h
  exact consumeVarint_length hv

theorem consumeTag_tag {num wt : Nat} (h1 : 1 ≤ num) (h2 : num < 536870912) (hw : wt < 8) (rest : Bytes) :
    consumeTag (tag num wt ++ rest) = .ok (num, wt, rest) := by
  unfold tag
  have := consumeTag_of_varint (consumeVarint_varint (n := num * 8 + wt) (by omega) rest)
    (by omega) (by omega)
  rw [this]
  have e1 : (num * 8 + wt) / 8 = num := by omega
  have e2 : (num * 8 + wt) % 8 = wt := by omega
  rw [e1, e2]

theorem consumeTag_nil : consumeTag [] = .err .eof := by
  simp [consumeTag, consumeVarint, consumeVarintAux]

theorem ne_nil_of_consumeTag {bs : Bytes} {x : Nat × Nat × Bytes} (ht : consumeTag bs = .ok x) : bs ≠ [] := by
  rintro rfl; rw [consumeTag_nil] at ht; cases ht

theorem tag_length_pos (num wt : Nat) : 0 < (tag num wt).length := varint_length_pos _

/-! ## `consumeValue` by wire type -/

theorem consumeValue_varint (f d num : Nat) (p : Bytes) :
    consumeValue (f + 1) d num 0 p = consumeVarint p >>= fun x => pure x.2 := by
  simp only [consumeValue, if_true]; cases consumeVarint p <;> rfl

theorem consumeValue_fixed32 (f d num : Nat) (p : Bytes) :
    consumeValue (f + 1) d num 5 p = if p.length < 4 then .err .eof else .ok (p.drop 4) := by
  simp [consumeValue]

theorem consumeValue_fixed64 (f d num : Nat) (p : Bytes) :
    consumeValue (f + 1) d num 1 p = if p.length < 8 then .err .eof else .ok (p.drop 8) := by
  simp [consumeValue]

theorem consumeValue_bytes (f d num : Nat) (p : Bytes) :
    consumeValue (f + 1) d num 2 p =
      consumeVarint p >>= fun x => if x.1 > x.2.length then .err .eof else pure (x.2.drop x.1) := by
  simp only [consumeValue, Nat.reduceEqDiff, if_false, if_true]; cases consumeVarint p <;> rfl

theorem consumeValue_group (f d num : Nat) (p : Bytes) :
    consumeValue (f + 1) d num 3 p = if d = 0 then .err .depth else consumeGroup f (d - 1) num p := by
  simp [consumeValue]

theorem consumeValue_not_ok {f d num typ : Nat} {p r : Bytes} (h : typ = 4 ∨ 6 ≤ typ) :
    consumeValue f d num typ p ≠ .ok r := by
  cases f with
  | zero => simp [consumeValue]
  | succ f =>
    rw [consumeValue, if_neg (by omega), if_neg (by omega), if_neg (by omega), if_neg (by omega), if_neg (by omega)]
    split <;> simp

/-- Induction over the values and group bodies protowire accepts: one case per way `consumeValue` /
    `consumeGroup` can return `.ok`. The motives are `PV f d num typ p r` for `consumeValue f d num typ p = .ok r` and
    `PG f d num p r` for `consumeGroup f d num p = .ok r`: `p` is the input, `r` what is left of it. A group value
    costs one unit of fuel and one of depth: the `group` case takes `PG f d` to `PV (f + 1) (d + 1)`.
    `consume_append` below shows the use. -/
theorem consume_induct {PV : Nat → Nat → Nat → Nat → Bytes → Bytes → Prop}
    {PG : Nat → Nat → Nat → Bytes → Bytes → Prop}
    (varint : ∀ f d num p v r, consumeVarint p = .ok (v, r) → PV (f + 1) d num 0 p r)
    (fixed32 : ∀ f d num p, 4 ≤ p.length → PV (f + 1) d num 5 p (p.drop 4))
    (fixed64 : ∀ f d num p, 8 ≤ p.length → PV (f + 1) d num 1 p (p.drop 8))
    (bytes : ∀ f d num p v q, consumeVarint p = .ok (v, q) → v ≤ q.length → PV (f + 1) d num 2 p (q.drop v))
    (group : ∀ f d num p r, consumeGroup f d num p = .ok r → PG f d num p r → PV (f + 1) (d + 1) num 3 p r)
    (endGroup : ∀ f d num p r, consumeTag p = .ok (num, 4, r) → PG (f + 1) d num p r)
    (field : ∀ f d num p num2 typ2 q q2 r, consumeTag p = .ok (num2, typ2, q) → typ2 ≠ 4 →
      consumeValue f d num2 typ2 q = .ok q2 → consumeGroup f d num q2 = .ok r →
      PV f d num2 typ2 q q2 → PG f d num q2 r → PG (f + 1) d num p r) (f : Nat) :
    (∀ d num typ p r, consumeValue f d num typ p = .ok r → PV f d num typ p r) ∧
    (∀ d num p r, consumeGroup f d num p = .ok r → PG f d num p r) := by
  induction f with
  | zero => exact ⟨fun _ _ _ _ _ h => by simp [consumeValue] at h, fun _ _ _ _ h => by simp [consumeGroup] at h⟩
  | succ f ih =>
    refine ⟨fun d num typ p r h => ?_, fun d num p r h => ?_⟩
    · match typ with
      | 0 =>
        rw [consumeValue_varint] at h
        cases hv : consumeVarint p with
        | ok x => rw [hv] at h; cases h; exact varint _ _ _ _ _ _ hv
        | err e => rw [hv] at h; cases h
        | panic => rw [hv] at h; cases h
      | 1 =>
        rw [consumeValue_fixed64] at h
        split at h
        · cases h
        · cases h; exact fixed64 _ _ _ _ (by omega)
      | 2 =>
        rw [consumeValue_bytes] at h
        cases hv : consumeVarint p with
        | ok x =>
          rw [hv] at h; simp only [Res.bind_ok] at h
          split at h
          · cases h
          · cases h; exact bytes _ _ _ _ _ _ hv (by omega)
        | err e => rw [hv] at h; cases h
        | panic => rw [hv] at h; cases h
      | 3 =>
        rw [consumeValue_group] at h
        split at h
        · cases h
        · obtain ⟨d, rfl⟩ : ∃ d', d = d' + 1 := ⟨d - 1, by omega⟩
          exact group _ _ _ _ _ h (ih.2 _ _ _ _ h)
      | 4 => exact absurd h (consumeValue_not_ok (.inl rfl))
      | 5 =>
        rw [consumeValue_fixed32] at h
        split at h
        · cases h
        · cases h; exact fixed32 _ _ _ _ (by omega)
      | n + 6 => exact absurd h (consumeValue_not_ok (.inr (by omega)))
    · rw [consumeGroup] at h
      split at h
      · rename_i num2 typ2 q ht
        split at h
        · rename_i h4; subst h4
          split at h
          · rename_i hn; subst hn; cases h; exact endGroup _ _ _ _ _ ht
          · cases h
        · rename_i h4
          split at h
          · rename_i q2 hv
            exact field _ _ _ _ _ _ _ _ _ ht h4 hv h (ih.1 _ _ _ _ _ hv) (ih.2 _ _ _ _ h)
          · cases h
          · cases h
      · cases h
      · cases h

/-! ## `consumeValue` / `consumeGroup`: what they accept is a prefix of the input -/

theorem consume_append (f : Nat) :
    (∀ d num typ (p r t : Bytes), consumeValue f d num typ p = .ok r →
      consumeValue f d num typ (p ++ t) = .ok (r ++ t)) ∧
    (∀ d num (p r t : Bytes), consumeGroup f d num p = .ok r →
      consumeGroup f d num (p ++ t) = .ok (r ++ t)) := by
  have := consume_induct (f := f)
    (PV := fun f d num typ p r => ∀ t, consumeValue f d num typ (p ++ t) = .ok (r ++ t))
    (PG := fun f d num p r => ∀ t, consumeGroup f d num (p ++ t) = .ok (r ++ t))
    (varint := fun f d num p v r h t => by rw [consumeValue_varint, consumeVarint_append t h]; rfl)
    (fixed32 := fun f d num p h t => by
      rw [consumeValue_fixed32, if_neg (by simp only [List.length_append]; omega), List.drop_append_of_le_length h])
    (fixed64 := fun f d num p h t => by
      rw [consumeValue_fixed64, if_neg (by simp only [List.length_append]; omega), List.drop_append_of_le_length h])
    (bytes := fun f d num p v q h hl t => by
      rw [consumeValue_bytes, consumeVarint_append t h, Res.bind_ok,
        if_neg (by simp only [List.length_append]; omega), List.drop_append_of_le_length hl]; rfl)
    (group := fun f d num p r _ ih t => by rw [consumeValue_group, if_neg (by omega)]; exact ih t)
    (endGroup := fun f d num p r ht t => by simp [consumeGroup, consumeTag_append t ht])
    (field := fun f d num p num2 typ2 q q2 r ht h4 _ _ ihV ihG t => by
      simp only [consumeGroup, consumeTag_append t ht, h4, if_false, ihV t]; exact ihG t)
  exact ⟨fun d num typ p r t h => this.1 d num typ p r h t, fun d num p r t h => this.2 d num p r h t⟩

theorem consume_suffix (f : Nat) :
    (∀ d num typ (p r : Bytes), consumeValue f d num typ p = .ok r → ∃ pre, p = pre ++ r) ∧
    (∀ d num (p r : Bytes), consumeGroup f d num p = .ok r → ∃ pre, p = pre ++ r) :=
  consume_induct (f := f)
    (PV := fun _ _ _ _ p r => ∃ pre, p = pre ++ r) (PG := fun _ _ _ p r => ∃ pre, p = pre ++ r)
    (varint := fun _ _ _ _ _ _ h => consumeVarint_suffix h)
    (fixed32 := fun _ _ _ p _ => ⟨p.take 4, (List.take_append_drop 4 p).symm⟩)
    (fixed64 := fun _ _ _ p _ => ⟨p.take 8, (List.take_append_drop 8 p).symm⟩)
    (bytes := fun _ _ _ p v q h _ => by
      obtain ⟨pre, hp⟩ := consumeVarint_suffix h
      exact ⟨pre ++ q.take v, by rw [List.append_assoc, List.take_append_drop]; exact hp⟩)
    (group := fun _ _ _ _ _ _ ih => ih)
    (endGroup := fun _ _ _ _ _ ht => consumeTag_suffix ht)
    (field := fun _ _ _ _ _ _ _ _ _ ht _ _ _ ⟨pre2, hp2⟩ ⟨pre3, hp3⟩ => by
      obtain ⟨pre, hp⟩ := consumeTag_suffix ht
      exact ⟨pre ++ pre2 ++ pre3, by rw [hp, hp2, hp3]; simp⟩)

theorem consumeValue_append {f d num typ : Nat} {p r : Bytes} (t : Bytes)
    (h : consumeValue f d num typ p = .ok r) : consumeValue f d num typ (p ++ t) = .ok (r ++ t) :=
  (consume_append f).1 d num typ p r t h

theorem consumeValue_suffix {f d num typ : Nat} {p r : Bytes}
    (h : consumeValue f d num typ p = .ok r) : ∃ pre, p = pre ++ r :=
  (consume_suffix f).1 d num typ p r h

theorem consumeValue_length_le {f d num typ : Nat} {p r : Bytes}
    (h : consumeValue f d num typ p = .ok r) : r.length ≤ p.length := by
  obtain ⟨pre, rfl⟩ := consumeValue_suffix h
  simp

theorem take_length_sub_of_suffix {α} {p pre r : List α} (h : p = pre ++ r) :
    p.take (p.length - r.length) = pre := by
  subst h; simp

theorem length_append_sub {α} (p r t : List α) : (p ++ t).length - (r ++ t).length = p.length - r.length := by
  simp only [List.length_append]
  omega

/-- Twice the input length is fuel enough: every record of a group body consumes at least its tag byte. -/
theorem consume_fuel (f : Nat) :
    (∀ d num typ (p r : Bytes), consumeValue f d num typ p = .ok r →
      ∀ f', 2 * p.length + 2 ≤ f' → consumeValue f' d num typ p = .ok r) ∧
    (∀ d num (p r : Bytes), consumeGroup f d num p = .ok r →
      ∀ f', 2 * p.length + 1 ≤ f' → consumeGroup f' d num p = .ok r) := by
  refine consume_induct
    (PV := fun _ d num typ p r => ∀ f', 2 * p.length + 2 ≤ f' → consumeValue f' d num typ p = .ok r)
    (PG := fun _ d num p r => ∀ f', 2 * p.length + 1 ≤ f' → consumeGroup f' d num p = .ok r)
    ?_ ?_ ?_ ?_ ?_ ?_ ?_ f
  · intro _ d num p v r h f' hf
    obtain ⟨g, rfl⟩ : ∃ g, f' = g + 1 := ⟨f' - 1, by omega⟩
    rw [consumeValue_varint, h]; rfl
  · intro _ d num p h f' hf
    obtain ⟨g, rfl⟩ : ∃ g, f' = g + 1 := ⟨f' - 1, by omega⟩
    rw [consumeValue_fixed32, if_neg (by omega)]
  · intro _ d num p h f' hf
    obtain ⟨g, rfl⟩ : ∃ g, f' = g + 1 := ⟨f' - 1, by omega⟩
    rw [consumeValue_fixed64, if_neg (by omega)]
  · intro _ d num p v q h hv f' hf
    obtain ⟨g, rfl⟩ : ∃ g, f' = g + 1 := ⟨f' - 1, by omega⟩
    rw [consumeValue_bytes, h]; simp [show ¬ v > q.length by omega]
  · intro _ d num p r _ ih f' hf
    obtain ⟨g, rfl⟩ : ∃ g, f' = g + 1 := ⟨f' - 1, by omega⟩
    rw [consumeValue_group, if_neg (by omega)]; exact ih g (by omega)
  · intro _ d num p r ht f' hf
    obtain ⟨g, rfl⟩ : ∃ g, f' = g + 1 := ⟨f' - 1, by omega⟩
    simp [consumeGroup, ht]
  · intro f d num p num2 typ2 q q2 r ht h4 hv _ ihV ihG f' hf
    obtain ⟨g, rfl⟩ : ∃ g, f' = g + 1 := ⟨f' - 1, by omega⟩
    have hq := consumeTag_length ht
    have hq2 := consumeValue_length_le hv
    simp only [consumeGroup, ht, h4, if_false, ihV g (by omega)]
    exact ihG g (by omega)

theorem consumeValue_fuel {f d num typ : Nat} {p r : Bytes}
    (h : consumeValue f d num typ p = .ok r) : consumeValue (2 * p.length + 2) d num typ p = .ok r :=
  (consume_fuel f).1 d num typ p r h _ (Nat.le_refl _)

theorem consumeField_eq_ok {bs : Bytes} {n : Nat} (h : consumeField bs = .ok n) :
    ∃ num wt r r', consumeTag bs = .ok (num, wt, r) ∧
      consumeValue (2 * bs.length + 2) 10001 num wt r = .ok r' ∧
      n = bs.length - r'.length ∧ r'.length < bs.length ∧ bs.drop n = r' := by
  unfold consumeField at h
  cases ht : consumeTag bs with
  | ok t =>
    obtain ⟨num, wt, r⟩ := t
    rw [ht] at h
    cases hv : consumeValue (2 * bs.length + 2) 10001 num wt r with
    | ok r' =>
      simp only [hv, Res.ok.injEq] at h
      obtain ⟨pre1, hp1⟩ := consumeTag_suffix ht
      obtain ⟨pre2, hp2⟩ := consumeValue_suffix hv
      have hlt := consumeTag_length ht
      have hle := consumeValue_length_le hv
      refine ⟨num, wt, r, r', rfl, hv, h.symm, by omega, ?_⟩
      subst hp2 hp1
      rw [← h, ← List.append_assoc, List.length_append, Nat.add_sub_cancel]
      exact List.drop_left
    | err e => simp [hv] at h
    | panic => simp [hv] at h
  | err e => simp [ht] at h
  | panic => simp [ht] at h
end Pulsar
