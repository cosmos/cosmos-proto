/-
  Pulsar.Proofs.RtScalar — reading back what the reference encoder wrote, at the bottom: protowire's readers on
  protowire's writers (`le`, zig-zag; `varint` and `tag` are in Proofs/Wire), then `specReadScalar` on `specScalar`
  for every kind (bit-exact; blobs up to the nil/empty flag, `decScalar`), and packed runs.
-/
import Pulsar.Proofs.EncodeScalar
namespace Pulsar

theorem ofLE_le : ∀ (w n : Nat), ofLE (le w n) = n % 256 ^ w
  | 0, n => by simp [le, ofLE, Nat.mod_one]
  | w+1, n => by
    simp only [le, ofLE, ofLE_le w, toUInt8_toNat (Nat.mod_lt n (by omega : 256 > 0))]
    rw [Nat.pow_succ, Nat.mul_comm (256 ^ w) 256, Nat.mod_mul]

theorem ofLE_le_of_lt {w n : Nat} (h : n < 256 ^ w) : ofLE (le w n) = n := by
  rw [ofLE_le, Nat.mod_eq_of_lt h]

/-- Zig-zag is undone by its inverse, in any width (`M` = 2^(w-1)). With the width a variable `omega`
    works on small coefficients; the 32- and 64-bit facts are instances up to unfolding. -/
theorem unzig_zig (M n : Nat) (h : n < 2 * M) :
    (if (if n < M then 2 * n else 2 * (2 * M - n) - 1) % 2 = 0
      then (if n < M then 2 * n else 2 * (2 * M - n) - 1) / 2
      else 2 * M - ((if n < M then 2 * n else 2 * (2 * M - n) - 1) / 2 + 1)) = n := by
  by_cases h1 : n < M
  · rw [if_pos h1, if_pos (by omega)]; omega
  · rw [if_neg h1, if_neg (by omega)]; omega

theorem zig_lt (M n : Nat) (h : n < 2 * M) : (if n < M then 2 * n else 2 * (2 * M - n) - 1) < 2 * M := by
  split <;> omega

theorem unzigzag64_zigzag64 {n : Nat} (h : n < 18446744073709551616) : unzigzag64 (zigzag64 n) = n :=
  unzig_zig 9223372036854775808 n h

theorem zigzag64_lt {n : Nat} (h : n < 18446744073709551616) : zigzag64 n < 18446744073709551616 :=
  zig_lt 9223372036854775808 n h

theorem unzigzag64_lt {z : Nat} (h : z < 18446744073709551616) : unzigzag64 z < 18446744073709551616 := by
  unfold unzigzag64; split <;> omega

theorem unzigzag32_lt {z : Nat} (h : z < 4294967296) : unzigzag32 z < 4294967296 := by
  unfold unzigzag32; split <;> omega

theorem unzigzag32_zigzag {n : Nat} (h : n < 4294967296) :
    unzigzag32 (zigzag64 (sext32 n) % 4294967296) = n := by
  have hl : zigzag32 n < 4294967296 := zig_lt 2147483648 n h
  rw [← zigzag32_eq h, Nat.mod_eq_of_lt hl]
  exact unzig_zig 2147483648 n h

theorem sext32_mod {n : Nat} (h : n < 4294967296) : sext32 n % 4294967296 = n := by
  unfold sext32; split <;> omega

/-- what the decoder stores for an encoded scalar: the same value, blobs with the decoder's flag. -/
def decScalar (k : Kind) (v : Val) : Val :=
  match v with
  | .blob _ b => .blob (k == .bytes) b
  | x => x

theorem decScalar_getBits (k : Kind) (v : Val) : (decScalar k v).getBits = v.getBits := by
  cases v <;> rfl

theorem decScalar_getBlob (k : Kind) (v : Val) : (decScalar k v).getBlob = v.getBlob := by
  cases v <;> rfl

theorem decScalar_rep (rn : Nat → Val → Val) (k k' : Kind) (v : Val) :
    repElem rn (.scalar k') (decScalar k v) = repElem rn (.scalar k') v := by
  cases v <;> rfl

theorem decScalar_bits (k : Kind) (n : Nat) : decScalar k (.bits n) = .bits n := rfl

theorem scalarOK_dec (k k' : Kind) (v : Val) : scalarOK k (decScalar k' v) = scalarOK k v := by
  cases v <;> rfl

theorem toVarint_lt {k : Kind} {n : Nat} (hb : k.isBlob = false) (hn : if k = .bool then n < 2 else n < 2 ^ k.width) :
    k.toVarint n < 18446744073709551616 := by
  cases k <;> simp [Kind.width, Kind.isBlob] at hn hb <;> simp only [Kind.toVarint]
  case int32 | enum => exact sext32_lt hn
  case sint32 => exact zigzag64_lt (sext32_lt hn)
  case sint64 => exact zigzag64_lt hn
  all_goals omega

theorem specScalar_length_pos (k : Kind) (v : Val) : 0 < (specScalar k v).length := by
  cases k <;> simp only [specScalar, fixed64, fixed32, length_le, List.length_append] <;>
    first
    | omega
    | exact varint_length_pos _
    | (have := varint_length_pos v.getBlob.length; omega)

theorem getBlob_length_le {k : Kind} {v : Val} (h : scalarOK k v = true) :
    v.getBlob.length ≤ (specScalar k v).length := by
  by_cases hb : k.isBlob = true
  · cases k <;> simp [Kind.isBlob] at hb <;> simp [specScalar]
  · obtain ⟨m, rfl, _⟩ := scalarOK_bits h (by simpa using hb)
    simp [Val.getBlob]

theorem specReadScalar_specScalar {k : Kind} {v : Val} (hv : scalarOK k v = true)
    (hu : k = .string → utf8Valid v.getBlob = true)
    (hl : v.getBlob.length < 18446744073709551616) (rest : Bytes) :
    specReadScalar k (specScalar k v ++ rest) = .ok (decScalar k v, rest) := by
  by_cases hblob : k.isBlob = true
  · obtain ⟨nn, b, rfl⟩ := scalarOK_blob hv hblob
    simp only [Val.getBlob] at hl hu
    cases k <;> simp [Kind.isBlob] at hblob
    case string =>
      simp only [specReadScalar, specScalar, Val.getBlob, List.append_assoc,
        consumeVarint_varint hl]
      rw [if_neg (by simp), List.take_left, List.drop_left]
      simp [hu rfl, decScalar]
    case bytes =>
      simp only [specReadScalar, specScalar, Val.getBlob, List.append_assoc,
        consumeVarint_varint hl]
      rw [if_neg (by simp), List.take_left, List.drop_left]
      simp [decScalar]
  · have hblob' : k.isBlob = false := by simpa using hblob
    obtain ⟨n, rfl, hn⟩ := scalarOK_bits hv hblob'
    have hvar := toVarint_lt hblob' hn
    cases k <;> simp [Kind.isBlob] at hblob' <;> simp [Kind.width] at hn
    case double | fixed64 | sfixed64 =>
      simp only [specReadScalar, specScalar, Val.getBits, fixed64, List.take_left' (length_le _ _), List.drop_left' (length_le _ _),
        decScalar]
      rw [if_neg (by simp [length_le]), ofLE_le_of_lt (by simpa using hn)]
    case float | fixed32 | sfixed32 =>
      simp only [specReadScalar, specScalar, Val.getBits, fixed32, List.take_left' (length_le _ _), List.drop_left' (length_le _ _),
        decScalar]
      rw [if_neg (by simp [length_le]), ofLE_le_of_lt (by simpa using hn)]
    case int64 | uint64 =>
      simp only [specReadScalar, specScalar, Val.getBits, consumeVarint_varint hvar, decScalar]
      simp [Kind.toVarint]
    case int32 | enum =>
      simp only [specReadScalar, specScalar, Val.getBits, consumeVarint_varint hvar, decScalar]
      simp [Kind.toVarint, sext32_mod hn]
    case uint32 =>
      simp only [specReadScalar, specScalar, Val.getBits, consumeVarint_varint hvar, decScalar]
      simp [Kind.toVarint, Nat.mod_eq_of_lt hn]
    case sint32 =>
      simp only [specReadScalar, specScalar, Val.getBits, consumeVarint_varint hvar, decScalar]
      simp [Kind.toVarint, unzigzag32_zigzag hn]
    case sint64 =>
      simp only [specReadScalar, specScalar, Val.getBits, consumeVarint_varint hvar, decScalar]
      simp [Kind.toVarint, unzigzag64_zigzag64 hn]
    case bool =>
      simp only [specReadScalar, specScalar, Val.getBits, consumeVarint_varint hvar, decScalar]
      have : n = 0 ∨ n = 1 := by omega
      rcases this with rfl | rfl <;> simp [Kind.toVarint]

theorem specPackedLoop_run {k : Kind} (hk : k.isBlob = false) : ∀ (es : List Val) (fuel : Nat) (acc : List Val),
    (∀ x ∈ es, scalarOK k x = true) → ((es.map (specScalar k)).flatten).length ≤ fuel →
    specPackedLoop k fuel ((es.map (specScalar k)).flatten) acc = .ok (acc ++ es) := by
  intro es
  induction es with
  | nil =>
    intro fuel acc _ _
    cases fuel <;> simp [specPackedLoop]
  | cons x xs ih =>
    intro fuel acc hok hf
    have hx : scalarOK k x = true := hok x List.mem_cons_self
    obtain ⟨n, rfl, hn⟩ := scalarOK_bits hx hk
    have hpos := specScalar_length_pos k (.bits n)
    simp only [List.map_cons, List.flatten_cons, List.length_append] at hf ⊢
    obtain ⟨g, rfl⟩ : ∃ g, fuel = g + 1 := ⟨fuel - 1, by omega⟩
    rw [specPackedLoop]
    have hne := List.append_ne_nil_of_left_ne_nil (List.ne_nil_of_length_pos hpos) (xs.map (specScalar k)).flatten
    rw [if_neg hne, specReadScalar_specScalar hx (by intro h; subst h; simp [Kind.isBlob] at hk)
      (by simp [Val.getBlob])]
    simp only [decScalar_bits]
    rw [ih g _ (fun y hy => hok y (List.mem_cons_of_mem _ hy)) (by omega)]
    simp

end Pulsar
