/-
  The draw-level model of rapidproto keeps messages well-typed (`msgOK`): for every draw sequence (in range or
  not: stored scalars are truncated to the field's width) and every field mapper whose values fit their kinds
  (`MapperTyped`). The new slot value is well-typed, and writing a well-typed slot keeps the message well-typed
  (`oneofOK_set`, `oneofOK_clearGroup_set`).
-/
import Pulsar.Proofs.RapidSlot
import Pulsar.Proofs.ReflectSort
import Pulsar.Proofs.RapidBridge
namespace Pulsar.Rapidproto

theorem rp_scalarVal_ok (E : List Int) (k : Kind) (d : Draw) : scalarOK k (scalarVal E k d) = true := by
  have h32 : ∀ x : Nat, x % 4294967296 < 4294967296 := fun x => Nat.mod_lt _ (by omega)
  have h64 : ∀ x : Nat, x % 18446744073709551616 < 18446744073709551616 := fun x => Nat.mod_lt _ (by omega)
  cases k <;> simp [scalarVal, scalarOK, Kind.isBlob, Kind.width, ofInt32_lt, ofInt64_lt, h32, h64]
  -- bool: the stored bit
  split <;> omega

theorem rp_ok_genScalar {o : GenOpts} (hmap : MapperTyped o) (E : List Int) (k : Kind) (ds : List Draw) :
    Post (fun _ => true) (genScalar o E k ds) (fun v => scalarOK k v = true) :=
  Post.genScalar ds (hmap k) (fun _ d _ => rp_scalarVal_ok E k d)

theorem rp_applyFW_put (fs : List FieldDesc) (f : FieldDesc) (j : Nat) (slots : List Val) (u : Bytes) (x : Val) :
    (applyFW fs f j slots u (.put x)).1 = .msg (slots.set j x) u := rp_bridge_applyFW_put fs f j slots u x

theorem rp_msgOK_slot_update (S : Schema) (n i : Nat) (f : FieldDesc) (j : Nat) (slots : List Val) (u : Bytes)
    (x : Val) (hm : msgOK S false (n+2) i (.msg slots u) = true) (hf : (S.msg i).fields[j]? = some f)
    (hx : slotOK (msgOK S false (n+1)) false f x = true) :
    msgOK S false (n+2) i (.msg ((slotBase (S.msg i).fields f (slots.getD j .none) slots).set j x) u) = true := by
  obtain ⟨hlen, hall, hone⟩ := msgOK_msg_iff.1 hm
  have hjl : j < slots.length := hlen ▸ lt_of_getElem?_some hf
  -- `x` into slot `j` of a typed slot list `base`: what is left is `oneofOK`
  have hset : ∀ base : List Val, base.length = (S.msg i).fields.length →
      (∀ p ∈ (S.msg i).fields.zip base, slotOK (msgOK S false (n+1)) false p.1 p.2 = true) →
      oneofOK ((S.msg i).fields.zip (base.set j x)) = true → msgOK S false (n+2) i (.msg (base.set j x) u) = true :=
    fun base hl hb ho => msgOK_msg_iff.2 ⟨by rw [List.length_set, hl],
      forall_mem_zip_set (P := fun f v => slotOK (msgOK S false (n+1)) false f v = true) hf hx hb, ho⟩
  unfold slotBase
  cases hs : f.shape with
  | oneof g =>
    simp only []
    split
    · -- a held message member is updated in place: no second member becomes active
      rename_i hcur
      exact hset slots hlen hall (oneofOK_set hf hjl (fun _ _ _ => by rw [hcur]; rfl) hone)
    · -- the other members of the group are dropped
      exact hset _ (clearGroup_length _ g _ hlen)
        (forall_mem_zip_clearGroup (P := fun f v => slotOK (msgOK S false (n+1)) false f v = true) _ g
          (fun _ hg => (slotOK_oneof_iff (FieldDesc.group?_eq_some.1 hg)).2 (.inl rfl)) _ hall)
        (oneofOK_clearGroup_set hf hjl hs hone)
  | _ =>
    exact hset slots hlen hall (oneofOK_set hf hjl (fun g hg => by simp [FieldDesc.group?, hs] at hg) hone)

def ChildOK (S : Schema) (n : Nat) (child : Nat → Val → List Draw → R (Bool × Val)) : Prop :=
  ∀ mi v ds, msgOK S false n mi v = true →
    Post (fun _ => true) (child mi v ds) (fun r => msgOK S false n mi r.2 = true)

/-- the invariants of the loops: every element (entry) is well-typed, and the keys of a map stay distinct -/
theorem rp_ok_genSlot (S : Schema) (o : GenOpts) (hmap : MapperTyped o) (E : List Int) {n : Nat}
    {child : Nat → Val → List Draw → R (Bool × Val)} (hc : ChildOK S (n+1) child)
    (f : FieldDesc) (cur : Val) (ds : List Draw) (hcur : slotOK (msgOK S false (n+1)) false f cur = true) :
    Post (fun _ => true) (genSlot S o E child f cur ds) (fun x => slotOK (msgOK S false (n+1)) false f x = true) := by
  have hput : ∀ {kk : Kind} {e : Elem} (es : List Val) (k v : Val),
      es.all (entryOK (msgOK S false (n+1)) false kk e) = true ∧ distinctKeys kk es = true → scalarOK kk k = true →
      elemOK (msgOK S false (n+1)) e false v = true →
      (sortEntries kk (mapPut (kbeqOf kk) es k v)).all (entryOK (msgOK S false (n+1)) false kk e) = true ∧
        distinctKeys kk (sortEntries kk (mapPut (kbeqOf kk) es k v)) = true :=
    fun es k v h hk hv => ⟨rp_all_put _ k v h.1 (by simp [entryOK, hk, hv]), distinctKeys_perm (sortEntries_perm _ _).symm (distinctKeys_mapPut k v h.2)⟩
  unfold genSlot
  cases hs : f.shape with
  | singular =>
    have hcur' := (slotOK_singular_iff hs).1 hcur
    cases he : f.elem with
    | scalar k => exact (rp_ok_genScalar hmap E k ds).mono (fun v hv => by simp [slotOK, hs, he, elemOK, hv])
    | message mi =>
      simp only [he, elemOK, Bool.and_true, Bool.or_eq_true] at hcur'
      refine ((hc mi _ ds ?_).mono (fun r hr => ?_)).map
      · split
        · exact msgOK_emptyMsg S false n mi
        · rename_i hn
          exact hcur'.resolve_left hn
      · split <;> simp [slotOK, hs, he, elemOK, hr, Val.isNone]
  | repeated pk =>
    obtain ⟨nn, es, rfl, hes⟩ := (slotOK_repeated_iff hs).1 hcur
    have hes := List.all_eq_true.2 hes
    have hlist : ∀ es' : List Val, es'.all (elemOK (msgOK S false (n+1)) f.elem false) = true →
        slotOK (msgOK S false (n+1)) false f (.list false es') = true := fun es' h' => by simpa [slotOK, hs] using h'
    cases he : f.elem with
    | scalar k =>
      rw [he] at hes hlist
      exact (Post.any _).bind (fun c rest _ => ((rp_inv_listScalars (sp := fun v => scalarOK k v = true)
        (rp_ok_genScalar hmap E k) (fun _ es => es.all (elemOK _ (.scalar k) false) = true)
        (fun _ _ _ h hv => all_append_one _ h (by simpa [elemOK] using hv)) _ _ rest hes).mono hlist).map)
    | message mi =>
      rw [he] at hes hlist
      exact (Post.any _).bind (fun c rest _ => ((rp_inv_listMsgs (C := fun r => msgOK S false (n+1) mi r.2 = true)
        (fun ds => hc mi _ ds (msgOK_emptyMsg S false n mi))
        (fun _ es => es.all (elemOK (msgOK S false (n+1)) (.message mi) false) = true)
        (fun _ _ _ h hr _ => all_append_one _ h (by simpa [elemOK] using hr))
        (fun _ _ _ i h hr _ => all_take _ _ i (all_append_one _ h (by simpa [elemOK] using hr)))
        _ 0 _ rest hes).mono hlist).map)
  | map kk =>
    obtain ⟨nn, es, rfl, hes, hd⟩ := (slotOK_map_iff hs).1 hcur
    have hes := List.all_eq_true.2 hes
    have hmapOK : ∀ es' : List Val,
        es'.all (entryOK (msgOK S false (n+1)) false kk f.elem) = true ∧ distinctKeys kk es' = true →
        slotOK (msgOK S false (n+1)) false f (.map false es') = true :=
      fun es' h' => slotOK_map_intro hs false h'.1 h'.2
    cases he : f.elem with
    | scalar vk =>
      rw [he] at hes hmapOK
      exact (Post.any _).bind (fun c rest _ => ((rp_inv_mapScalars (spk := fun k => scalarOK kk k = true)
        (spv := fun v => scalarOK vk v = true) (rp_ok_genScalar hmap E kk) (rp_ok_genScalar hmap E vk)
        (fun es => es.all (entryOK _ false kk (.scalar vk)) = true ∧ distinctKeys kk es = true)
        (fun es k v h hk hv => hput es k v h hk (by simpa [elemOK] using hv)) _ _ rest ⟨hes, hd⟩).mono hmapOK).map)
    | message mi =>
      rw [he] at hes hmapOK
      refine (Post.any _).bind (fun c rest _ => ((rp_inv_mapMsgs (spk := fun k => scalarOK kk k = true)
        (C0 := fun v => msgOK S false (n+1) mi v = true) (C := fun v => msgOK S false (n+1) mi v = true)
        (rp_ok_genScalar hmap E kk) (hc mi)
        (fun es => es.all (entryOK (msgOK S false (n+1)) false kk (.message mi)) = true ∧ distinctKeys kk es = true)
        (fun es k h => ?_) (fun es k v h hk hv => hput es k v h hk (by simpa [elemOK] using hv))
        (fun es k h => ⟨all_filter _ _ h.1, distinctKeys_mapDel k h.2⟩) _ _ rest ⟨hes, hd⟩).mono hmapOK).map)
      -- the value `m.Mutable(key)` returns: a new empty message, or the stored message
      cases hf : findEntry kk es k with
      | none => exact msgOK_emptyMsg S false n mi
      | some en =>
        obtain ⟨k0, v0, rfl, _, hv0⟩ := entryOK_iff.1 (List.all_eq_true.1 h.1 en (List.mem_of_find?_eq_some hf))
        simpa [valueOr, elemOK] using hv0
  | oneof g =>
    cases he : f.elem with
    | scalar k =>
      exact ((rp_ok_genScalar hmap E k ds).mono (fun v hv => by simp [slotOK, hs, he, elemOK, hv])).map
    | message mi =>
      refine ((hc mi _ ds ?_).mono (fun r hr => ?_)).map
      · rcases slotOK_oneof_junkfree hs hcur with rfl | ⟨x, rfl, hx⟩
        · exact msgOK_emptyMsg S false n mi
        · simpa [he, elemOK] using hx
      · split <;> simp [slotOK, hs, he, elemOK, hr]

theorem rp_ok_genFields (S : Schema) (o : GenOpts) (hmap : MapperTyped o) (E : List Int) {n : Nat}
    {child : Nat → Val → List Draw → R (Bool × Val)} (hc : ChildOK S (n+1) child) (i : Nat) (u : Bytes) :
    ∀ (rem : List FieldDesc) (j : Nat) (slots : List Val) (ds : List Draw),
    (S.msg i).fields.drop j = rem → msgOK S false (n+2) i (.msg slots u) = true →
    Post (fun _ => true) (genFields S o E child (S.msg i).fields j rem slots ds)
      (fun slots' => msgOK S false (n+2) i (.msg slots' u) = true)
  | [], _, slots, ds, _, hm => Post.ok hm
  | f :: rem, j, slots, ds, hdrop, hm => by
    obtain ⟨hf, hdrop'⟩ := drop_eq_cons hdrop
    simp only [genFields]
    refine (Post.any _).bind (fun g rest _ => ?_)
    split
    · exact rp_ok_genFields S o hmap E hc i u rem (j+1) slots rest hdrop' hm
    · rw [rp_genField_eq]
      refine Post.bind (Q1 := fun s => msgOK S false (n+2) i (.msg s u) = true)
        ((rp_ok_genSlot S o hmap E hc f _ rest (slotOK_getD hm hf)).mono (fun x hx =>
          rp_msgOK_slot_update S n i f j slots u x hm hf hx)).map (fun slots' rest' hm' => ?_)
      exact rp_ok_genFields S o hmap E hc i u rem (j+1) slots' rest' hdrop' hm'

/-- By recursion on the typing fuel `N`: the children are typed with one less. `depthLimit + 2`: a message
    filled at depth `depthLimit` can keep empty messages created at depth `depthLimit + 1` (the Truncate quirk),
    so a value generated at depth `d` nests up to `depthLimit + 2 - d` levels. `fuelFor d` is that number; it
    also serves as the recursion fuel of `setFields`, where one less would do. -/
theorem rp_ok_setFields (S : Schema) (o : GenOpts) (hmap : MapperTyped o) (E : List Int) :
    ∀ (N fuel depth i : Nat) (v : Val) (ds : List Draw), Extracted.depthLimit + 2 ≤ N + depth →
    msgOK S false N i v = true →
    Post (fun _ => true) (setFields S o E fuel depth i v ds) (fun r => msgOK S false N i r.2 = true)
  | 0, _, _, _, _, _, _, hv => by simp [msgOK] at hv
  | 1, _, _, _, _, _, hN, hv => Post.setFields_cases (fun _ => hv) (fun hd => absurd hd (by omega))
  | n+2, fuel, depth, i, v, ds, hN, hv => by
    refine Post.setFields_cases (fun _ => hv) (fun hd => ?_)
    obtain ⟨slots, u, rfl⟩ := msgOK_isMsg hv
    exact rp_ok_genFields S o hmap E
      (fun mi c ds' hcv => rp_ok_setFields S o hmap E (n+1) (fuel - 1) (depth+1) mi c ds' (by omega) hcv)
      i u _ 0 slots ds (by simp) hv

theorem rp_ok_setFields_fuelFor (S : Schema) (o : GenOpts) (hmap : MapperTyped o) (E : List Int) (depth i : Nat)
    (v : Val) (ds : List Draw) (hv : msgOK S false (fuelFor depth) i v = true) :
    Post (fun _ => true) (setFields S o E (fuelFor depth) depth i v ds)
      (fun r => msgOK S false (fuelFor depth) i r.2 = true) := by
  refine rp_ok_setFields S o hmap E _ _ depth i v ds ?_ hv
  have : fuelFor depth ≠ 0 := fun h0 => by rw [h0] at hv; simp [msgOK] at hv
  unfold fuelFor at this ⊢
  omega

end Pulsar.Rapidproto
