/-
  Pulsar.Proofs.RtStep — the bookkeeping relation `Steps`, obtained from one record of the loop (`specStep` of
  DecodeRefStep), and what `specStep` computes on the records the encoder writes: an element record of
  any non-map field, a packed run, a map entry, an unknown record; likewise what `specEntryStep` computes on
  the key record and the value record of a map entry.
-/
import Pulsar.Proofs.RtScalar
import Pulsar.Proofs.DecodeRefStep
namespace Pulsar

/-- The strict reference loop for message `i` of `S` (child decoder `cd`), started on `bs` in state `m`
    with enough fuel, reaches input `bs'` in state `m'` with enough fuel. -/
def Steps (S : Schema) (i : Nat) (cd : Nat → Val → Bytes → Res Val) (m : Val) (bs : Bytes) (m' : Val) (bs' : Bytes) :
    Prop :=
  ∀ fuel, bs.length ≤ fuel → ∃ fuel', bs'.length ≤ fuel' ∧
    specDecodeLoop true S i {} cd fuel m bs = specDecodeLoop true S i {} cd fuel' m' bs'

section
variable {S : Schema} {i : Nat} {cd : Nat → Val → Bytes → Res Val}

theorem Steps.refl (m : Val) (bs : Bytes) : Steps S i cd m bs m bs :=
  fun fuel h => ⟨fuel, h, rfl⟩

theorem Steps.trans {m m' m'' : Val} {bs bs' bs'' : Bytes}
    (h1 : Steps S i cd m bs m' bs') (h2 : Steps S i cd m' bs' m'' bs'') : Steps S i cd m bs m'' bs'' := by
  intro fuel hf
  obtain ⟨f1, hf1, e1⟩ := h1 fuel hf
  obtain ⟨f2, hf2, e2⟩ := h2 f1 hf1
  exact ⟨f2, hf2, e1.trans e2⟩

theorem Steps.of_specStep {m m' : Val} {bs bs' : Bytes}
    (h : specStep true S i {} cd m bs = .ok (m', bs')) (hl : bs'.length < bs.length) : Steps S i cd m bs m' bs' := by
  intro fuel hf
  obtain ⟨g, rfl⟩ : ∃ g, fuel = g + 1 := ⟨fuel - 1, by omega⟩
  have hne : bs ≠ [] := by rintro rfl; simp at hl
  exact ⟨g, by omega, by rw [specDecodeLoop_succ, if_neg hne, h]; rfl⟩

theorem specPayload_varint {α : Type} {X : Bytes → Res α} {p : Bytes} {x : α} (hX : X p = .ok x)
    (hlen : p.length < 18446744073709551616) (rest : Bytes) :
    specPayload X (varint p.length ++ (p ++ rest)) = .ok (x, rest) := by
  unfold specPayload specLenDelim
  rw [consumeVarint_varint hlen]
  simp only [Res.bind_ok, List.length_append, show ¬ (p.length > p.length + rest.length) by omega, if_false,
    List.take_left, List.drop_left, hX, Res.mapR_ok]

theorem accepts_wireType (f : FieldDesc) (hm : ∀ kk, f.shape ≠ .map kk) : f.accepts f.elem.wireType = true := by
  unfold FieldDesc.accepts
  split
  · rename_i kk hs; exact absurd hs (hm kk)
  · rename_i k _ he; simp [he]
  · simp

variable {m : Val} {bs r r' : Bytes} {num j : Nat} {f : FieldDesc}

theorem specStep_elem {x : Val}
    (ht : consumeTag bs = .ok (num, f.elem.wireType, r)) (hn : num ≤ 536870911)
    (hfind : findField (S.msg i).fields num = some (j, f)) (hm : ∀ kk, f.shape ≠ .map kk)
    (hr : specReadElem cd S f.elem (f.target (m.slot j)) r = .ok (x, r')) :
    specStep true S i {} cd m bs = .ok (storeSlot (S.msg i).fields f j m (f.put (m.slot j) x), r') := by
  have hslot : specSlotStep true S cd f f.elem.wireType (m.slot j) r = .ok (f.put (m.slot j) x, r') := by
    unfold specSlotStep
    split
    · rename_i kk hs; exact absurd hs (hm kk)
    · rw [if_pos rfl, hr]; rfl
  unfold specStep
  rw [ht]
  simp only [Res.bind_ok, show ¬ (num > 536870911) by omega, if_false, hfind, accepts_wireType f hm, if_true, hslot,
    Res.mapR_ok]

theorem specStep_packed {pk : Bool} {k : Kind} {vs : List Val}
    (ht : consumeTag bs = .ok (num, 2, r)) (hn : num ≤ 536870911)
    (hfind : findField (S.msg i).fields num = some (j, f))
    (hs : f.shape = .repeated pk) (he : f.elem = .scalar k) (hpk : k.packable = true)
    (hp : specPayload (fun p => specPackedLoop k p.length p []) r = .ok (vs, r')) :
    specStep true S i {} cd m bs =
      .ok (m.setSlot j (.list (packedNonNil (m.slot j) vs) ((m.slot j).elems ++ vs)), r') := by
  have hwt : (2 : Nat) ≠ (Elem.scalar k).wireType := by
    rw [Elem.wireType, wireType_eq_spec]
    exact fun h => (packable_iff k).1 hpk h.symm
  have hslot : specSlotStep true S cd f 2 (m.slot j) r =
      .ok (.list (packedNonNil (m.slot j) vs) ((m.slot j).elems ++ vs), r') := by
    unfold specSlotStep
    simp only [hs, he, if_neg hwt, hp, Res.mapR_ok]
  unfold specStep
  rw [ht]
  simp only [Res.bind_ok, show ¬ (num > 536870911) by omega, if_false, hfind, FieldDesc.accepts, hs, he,
    decide_true, or_true, if_true, hslot, Res.mapR_ok, storeSlot]

theorem specStep_map {kk : Kind} {k v : Val}
    (ht : consumeTag bs = .ok (num, 2, r)) (hn : num ≤ 536870911)
    (hfind : findField (S.msg i).fields num = some (j, f)) (hs : f.shape = .map kk)
    (hp : specPayload (fun p => specEntryLoop true cd kk f.elem p.length p (Elem.zeroVar (.scalar kk))
      (specV0 S f.elem)) r = .ok ((k, v), r')) :
    specStep true S i {} cd m bs =
      .ok (m.setSlot j (.map true (mapPut (kbeqOf kk) (m.slot j).elems k v)), r') := by
  have hslot : specSlotStep true S cd f 2 (m.slot j) r =
      .ok (.map true (mapPut (kbeqOf kk) (m.slot j).elems k v), r') := by
    unfold specSlotStep
    simp only [hs, hp, Res.mapR_ok]
  unfold specStep
  rw [ht]
  simp only [Res.bind_ok, show ¬ (num > 536870911) by omega, if_false, hfind, FieldDesc.accepts, hs,
    decide_true, if_true, hslot, Res.mapR_ok, storeSlot]

theorem specStep_unknown {wt : Nat}
    (ht : consumeTag bs = .ok (num, wt, r)) (hn : num ≤ 536870911)
    (hfind : findField (S.msg i).fields num = none)
    (hv : consumeValue (2 * r.length + 2) 10001 num wt r = .ok r') :
    specStep true S i {} cd m bs = .ok (Val.msg m.slots (m.unknown ++ bs.take (bs.length - r'.length)), r') := by
  unfold specStep specUnknown
  rw [ht]
  simp only [Res.bind_ok, show ¬ (num > 536870911) by omega, if_false, hfind, hv]
  rfl

theorem specEntryStep_key {kk : Kind} {e : Elem} {kv : Val × Val} {p r r' : Bytes} {k' : Val}
    (ht : consumeTag p = .ok (1, kk.specWireType, r)) (hr : specReadScalar kk r = .ok (k', r')) :
    specEntryStep true cd kk e kv p = .ok ((k', kv.2), r') := by
  unfold specEntryStep
  rw [ht]
  simp only [Res.bind_ok, show ¬ (1 > 536870911) by omega, if_false, if_true, hr, Res.mapR_ok]

theorem specEntryStep_value {kk : Kind} {e : Elem} {kv : Val × Val} {p r r' : Bytes} {x : Val}
    (ht : consumeTag p = .ok (2, e.wireType, r)) (hv0 : kv.2 = specV0 S e)
    (hr : specReadElem cd S e .none r = .ok (x, r')) :
    specEntryStep true cd kk e kv p = .ok ((kv.1, x), r') := by
  unfold specEntryStep
  rw [ht]
  cases e with
  | scalar vk =>
    simp only [Res.bind_ok, show ¬ (2 > 536870911) by omega, show ¬ (2 = 1) by omega, if_false, if_true,
      Elem.wireType, wireType_eq_spec, show specReadScalar vk r = .ok (x, r') from hr, Res.mapR_ok]
  | message mi =>
    have hr' : specPayload (cd mi kv.2) r = .ok (x, r') := by rw [hv0]; exact hr
    simp only [Res.bind_ok, show ¬ (2 > 536870911) by omega, show ¬ (2 = 1) by omega, if_false, if_true,
      Elem.wireType, Extracted.messageWireType, hr', Res.mapR_ok]

end
end Pulsar
