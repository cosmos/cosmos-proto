/-
  Pulsar.Proofs.DecodeRefReaders — protowire's strict readers (the reference side) against the readers of
  the generated closure. Every reader gets the same two facts: what it accepts in front of `r` it reads the
  same way whatever follows, having consumed input (`ReadsPrefix`); and the generated reader accepts it too,
  with the same result (`…_impl`).
-/
import Pulsar.Proofs.DecodeReaders
import Pulsar.Proofs.EncodeScalar
namespace Pulsar

/-- `rd` accepted `p` and left `r`: it consumed input, and reads the same value when more input follows -/
def ReadsPrefix {α : Type} (rd : Bytes → Res (α × Bytes)) (p : Bytes) (x : α) (r : Bytes) : Prop :=
  r.length < p.length ∧ ∀ t, rd (p ++ t) = .ok (x, r ++ t)

/-- `rd'`: the reader that takes the place of `rd` when more input follows (`rd` itself, or one that accepts more) -/
theorem ReadsPrefix.mapFst {α β : Type} {rd rd' : Bytes → Res (α × Bytes)} {g : α → β} {p r : Bytes} {b : β}
    (hrd : ∀ {x}, rd p = .ok (x, r) → ReadsPrefix rd' p x r) (h : (rd p).mapFst g = .ok (b, r)) :
    ReadsPrefix (fun p => (rd' p).mapFst g) p b r := by
  obtain ⟨x, hx, rfl⟩ := Res.mapFst_eq_ok.1 h
  obtain ⟨hl, happ⟩ := hrd hx
  exact ⟨hl, fun t => Res.mapFst_eq_ok.2 ⟨x, happ t, rfl⟩⟩

/-- what the generated loop computes from the tag varint. -/
theorem consumeTag_impl {bs : Bytes} {num wt : Nat} {r : Bytes}
    (h : consumeTag bs = .ok (num, wt, r)) (hn : num ≤ 536870911) :
    ∃ wire, readVarint bs = .ok (wire, r) ∧ (wire / 8) % 4294967296 = num ∧ wire % 8 = wt ∧
      1 ≤ num ∧ r.length < bs.length := by
  obtain ⟨wire, hv, rfl, rfl, h1, _⟩ := consumeTag_inv h
  refine ⟨wire, consumeVarint_impl hv, Nat.mod_eq_of_lt (by omega), rfl, h1,
    consumeVarint_length hv⟩

/-- One unknown record: protowire's two-step `ConsumeTag`/`ConsumeFieldValue` against `runtime.Skip`
    on the whole record. -/
theorem unknown_record {bs : Bytes} {num wt : Nat} {r r' : Bytes} {f d : Nat}
    (ht : consumeTag bs = .ok (num, wt, r)) (hv : consumeValue f d num wt r = .ok r')
    (hl : bs.length < 9223372036854775808) :
    skip bs = .ok (bs.length - r'.length) ∧ r'.length < bs.length ∧
      bs.drop (bs.length - r'.length) = r' := by
  obtain ⟨hs, hlt⟩ := skip_record ht hv hl
  obtain ⟨pre1, hp1⟩ := consumeTag_suffix ht
  obtain ⟨pre2, hp2⟩ := consumeValue_suffix hv
  exact ⟨hs, hlt, (List.suffix_iff_eq_drop.1 ⟨pre1 ++ pre2, by rw [hp1, hp2]; simp⟩).symm⟩

/-! ## a length-delimited payload -/

/-- a length prefix as the reference reads it (`protowire.ConsumeBytes`); the counterpart of `readLenDelim` -/
def specLenDelim (r : Bytes) : Res (Bytes × Bytes) :=
  consumeVarint r >>= fun nr => if nr.1 > nr.2.length then .err .eof else .ok (nr.2.take nr.1, nr.2.drop nr.1)

theorem specLenDelim_eq_ok {r p r' : Bytes} (h : specLenDelim r = .ok (p, r')) :
    ∃ n r1, consumeVarint r = .ok (n, r1) ∧ n ≤ r1.length ∧ p = r1.take n ∧ r' = r1.drop n := by
  obtain ⟨⟨n, r1⟩, hcv, h⟩ := Res.bind_eq_ok.1 h
  dsimp only at h
  split at h
  · cases h
  · cases h
    exact ⟨n, r1, hcv, by omega, rfl, rfl⟩

theorem specLenDelim_prefix {r p r' : Bytes} (h : specLenDelim r = .ok (p, r')) :
    ReadsPrefix specLenDelim r p r' ∧ p.length + r'.length < r.length := by
  obtain ⟨n, r1, hcv, hn, rfl, rfl⟩ := specLenDelim_eq_ok h
  have hl := consumeVarint_length hcv
  have hlen : (r1.take n).length + (r1.drop n).length < r.length := by
    simp only [List.length_take, List.length_drop]
    omega
  refine ⟨⟨by omega, fun t => ?_⟩, hlen⟩
  unfold specLenDelim
  rw [consumeVarint_append t hcv, Res.bind_ok]
  dsimp only
  rw [if_neg (by simp only [List.length_append]; omega), List.take_append_of_le_length hn,
    List.drop_append_of_le_length hn]

theorem consumeVarint_impl_len {r r1 : Bytes} {n : Nat} (hl : r.length < 9223372036854775808)
    (hcv : consumeVarint r = .ok (n, r1)) (hn : n ≤ r1.length) : readLen r = .ok (n, r1) := by
  have := consumeVarint_length hcv
  unfold readLen
  rw [consumeVarint_impl hcv, Res.bind_ok]
  dsimp only
  rw [if_neg (by omega), if_neg (by omega)]

theorem specLenDelim_impl {r p r' : Bytes} (hl : r.length < 9223372036854775808)
    (h : specLenDelim r = .ok (p, r')) : readLenDelim r = .ok (p, r') := by
  obtain ⟨n, r1, hcv, hn, rfl, rfl⟩ := specLenDelim_eq_ok h
  rw [readLenDelim_eq, consumeVarint_impl_len hl hcv hn]
  rfl

/-! ## scalars -/

/-- a fixed-width scalar of `w` bytes as the reference reads it; the counterpart of `readFixed` -/
def specFixed (w : Nat) (rest : Bytes) : Res (Val × Bytes) :=
  if rest.length < w then .err .eof else .ok (.bits (ofLE (rest.take w)), rest.drop w)

theorem specReadScalar_eq (k : Kind) (rest : Bytes) :
    specReadScalar k rest =
      if k.specWireType = 1 then specFixed 8 rest
      else if k.specWireType = 5 then specFixed 4 rest
      else if k.specWireType = 2 then
        specLenDelim rest >>= fun pr =>
          if k == .string && !utf8Valid pr.1 then .err .utf8 else .ok (.blob (k == .bytes) pr.1, pr.2)
      else (consumeVarint rest).mapFst fun v => .bits (k.ofVarint v) := by
  have blob : ∀ k' : Kind, (match consumeVarint rest with
      | .ok (n, r) =>
        if n > r.length then Res.err Err.eof
        else if k' == .string && !utf8Valid (r.take n) then .err .utf8
        else .ok (Val.blob (k' == .bytes) (r.take n), r.drop n)
      | .err e => .err e | .panic => .panic) =
      specLenDelim rest >>= fun pr =>
        if k' == .string && !utf8Valid pr.1 then .err .utf8 else .ok (.blob (k' == .bytes) pr.1, pr.2) := by
    intro k'
    unfold specLenDelim
    rcases consumeVarint rest with ⟨⟨n, r⟩⟩ | e | _
    · simp only [Res.bind_ok]
      by_cases hn : n > r.length
      · rw [if_pos hn, if_pos hn]
        rfl
      · rw [if_neg hn, if_neg hn]
        rfl
    · rfl
    · rfl
  have varint : ∀ g : Nat → Nat, (match consumeVarint rest with
      | .ok (v, r) => Res.ok (Val.bits (g v), r) | .err e => .err e | .panic => .panic) =
      (consumeVarint rest).mapFst fun v => .bits (g v) := by
    intro g
    rcases consumeVarint rest with ⟨⟨v, r⟩⟩ | e | _ <;> rfl
  cases k
  case double => rfl
  case fixed64 => rfl
  case sfixed64 => rfl
  case float => rfl
  case fixed32 => rfl
  case sfixed32 => rfl
  case string => exact blob .string
  case bytes => exact blob .bytes
  case int32 => exact varint (Kind.ofVarint .int32)
  case int64 => exact varint (Kind.ofVarint .int64)
  case uint32 => exact varint (Kind.ofVarint .uint32)
  case uint64 => exact varint (Kind.ofVarint .uint64)
  case sint32 => exact varint (Kind.ofVarint .sint32)
  case sint64 => exact varint (Kind.ofVarint .sint64)
  case bool => exact varint (Kind.ofVarint .bool)
  case enum => exact varint (Kind.ofVarint .enum)

theorem specFixed_prefix {w : Nat} (hw : 0 < w) {p r : Bytes} {v : Val} (h : specFixed w p = .ok (v, r)) :
    ReadsPrefix (specFixed w) p v r := by
  unfold specFixed at h
  split at h
  · cases h
  · rename_i hl
    cases h
    refine ⟨by simp only [List.length_drop]; omega, fun t => ?_⟩
    unfold specFixed
    rw [if_neg (by simp only [List.length_append]; omega), List.take_append_of_le_length (by omega),
      List.drop_append_of_le_length (by omega)]

theorem consumeVarint_prefix {p r : Bytes} {v : Nat} (h : consumeVarint p = .ok (v, r)) :
    ReadsPrefix consumeVarint p v r :=
  ⟨consumeVarint_length h, fun t => consumeVarint_append t h⟩

/-- the wire type picks one of three readers, on both sides; stated as equations between readers -/
theorem readScalar_cases (k : Kind) :
    (∃ w, 0 < w ∧ specReadScalar k = specFixed w ∧ implReadScalar k = fun r => (readFixed w r).mapFst .bits) ∨
    (specReadScalar k = (fun r => specLenDelim r >>= fun pr =>
        if k == .string && !utf8Valid pr.1 then .err .utf8 else .ok (.blob (k == .bytes) pr.1, pr.2)) ∧
      implReadScalar k = fun r => (readLenDelim r).mapFst (.blob (k == .bytes))) ∨
    (specReadScalar k = (fun r => (consumeVarint r).mapFst fun v => .bits (k.ofVarint v)) ∧
      implReadScalar k = fun r => (readVarint r).mapFst fun v => .bits (k.ofVarint v)) := by
  by_cases h1 : k.specWireType = 1
  · exact .inl ⟨8, by decide, funext fun r => by rw [specReadScalar_eq, if_pos h1],
      funext fun r => by rw [implReadScalar_eq, wireType_eq_spec, if_pos h1]⟩
  by_cases h5 : k.specWireType = 5
  · exact .inl ⟨4, by decide, funext fun r => by rw [specReadScalar_eq, if_neg h1, if_pos h5],
      funext fun r => by rw [implReadScalar_eq, wireType_eq_spec, if_neg h1, if_pos h5]⟩
  by_cases h2 : k.specWireType = 2
  · exact .inr (.inl ⟨funext fun r => by rw [specReadScalar_eq, if_neg h1, if_neg h5, if_pos h2],
      funext fun r => by rw [implReadScalar_eq, wireType_eq_spec, if_neg h1, if_neg h5, if_pos h2]⟩)
  · exact .inr (.inr ⟨funext fun r => by rw [specReadScalar_eq, if_neg h1, if_neg h5, if_neg h2],
      funext fun r => by rw [implReadScalar_eq, wireType_eq_spec, if_neg h1, if_neg h5, if_neg h2]⟩)

theorem specBlob_eq_ok {k : Kind} {r r' : Bytes} {v : Val}
    (h : (specLenDelim r >>= fun pr =>
      if k == .string && !utf8Valid pr.1 then Res.err Err.utf8 else .ok (Val.blob (k == .bytes) pr.1, pr.2)) = .ok (v, r')) :
    ∃ p, specLenDelim r = .ok (p, r') ∧ ¬ (k == .string && !utf8Valid p) = true ∧ v = .blob (k == .bytes) p := by
  obtain ⟨⟨q, r1⟩, hld, h⟩ := Res.bind_eq_ok.1 h
  dsimp only at h
  split at h
  · cases h
  · cases h
    exact ⟨q, hld, ‹_›, rfl⟩

theorem specReadScalar_prefix {k : Kind} {p r : Bytes} {v : Val} (h : specReadScalar k p = .ok (v, r)) :
    ReadsPrefix (specReadScalar k) p v r := by
  rcases readScalar_cases k with ⟨w, hw, hs, _⟩ | ⟨hs, _⟩ | ⟨hs, _⟩ <;> rw [hs] at h ⊢
  · exact specFixed_prefix hw h
  · obtain ⟨q, hld, hu, rfl⟩ := specBlob_eq_ok h
    obtain ⟨⟨hl, happ⟩, _⟩ := specLenDelim_prefix hld
    exact ⟨hl, fun t => by dsimp only; rw [happ t, Res.bind_ok]; dsimp only; rw [if_neg hu]⟩
  · exact ReadsPrefix.mapFst consumeVarint_prefix h

theorem specReadScalar_impl {k : Kind} {r r' : Bytes} {v : Val}
    (hl : r.length < 9223372036854775808)
    (h : specReadScalar k r = .ok (v, r')) : implReadScalar k r = .ok (v, r') := by
  rcases readScalar_cases k with ⟨w, hw, hs, hi⟩ | ⟨hs, hi⟩ | ⟨hs, hi⟩ <;> rw [hs] at h <;> rw [hi]
  · unfold specFixed at h
    dsimp only
    rw [readFixed_eq]
    split at h
    · cases h
    · cases h
      rw [if_neg (by omega)]
      rfl
  · obtain ⟨q, hld, _, rfl⟩ := specBlob_eq_ok h
    dsimp only
    rw [specLenDelim_impl hl hld]
    rfl
  · obtain ⟨n, hcv, rfl⟩ := Res.mapFst_eq_ok.1 h
    dsimp only
    rw [consumeVarint_impl hcv]
    rfl

theorem specReadScalar_shape {k : Kind} {p r : Bytes} {v : Val}
    (h : specReadScalar k p = .ok (v, r)) : (∃ n, v = .bits n) ∨ (∃ f b, v = .blob f b) := by
  rcases readScalar_cases k with ⟨w, hw, hs, _⟩ | ⟨hs, _⟩ | ⟨hs, _⟩ <;> rw [hs] at h
  · unfold specFixed at h
    split at h
    · cases h
    · cases h
      exact Or.inl ⟨_, rfl⟩
  · obtain ⟨q, _, _, rfl⟩ := specBlob_eq_ok h
    exact Or.inr ⟨_, _, rfl⟩
  · obtain ⟨n, _, rfl⟩ := Res.mapFst_eq_ok.1 h
    exact Or.inl ⟨_, rfl⟩

theorem packed_agree {k : Kind} {fuel : Nat} {p t : Bytes} {acc vs : List Val} (hf : p.length ≤ fuel)
    (hl : (p ++ t).length < 9223372036854775808) (h : specPackedLoop k fuel p acc = .ok vs) :
    implPackedLoop k fuel (p ++ t) p.length acc = .ok (vs, t) := by
  induction fuel generalizing p acc with
  | zero =>
    have : p = [] := List.eq_nil_of_length_eq_zero (by omega)
    subst this
    cases h
    rfl
  | succ fuel ih =>
    rw [specPackedLoop] at h
    rw [implPackedLoop]
    split at h
    · rename_i hp
      subst hp
      cases h
      rfl
    · rename_i hp
      have hp0 : p.length ≠ 0 := fun e => hp (List.eq_nil_of_length_eq_zero e)
      rw [if_neg hp0]
      split at h
      · rename_i v r hs
        obtain ⟨hlen, happ⟩ := specReadScalar_prefix hs
        simp only [specReadScalar_impl hl (happ t)]
        rw [length_append_sub, Nat.sub_sub_self (Nat.le_of_lt hlen)]
        exact ih (by omega) (by simp only [List.length_append] at hl ⊢; omega) h
      · cases h
      · cases h

end Pulsar
