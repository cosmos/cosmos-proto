/-
  Pulsar.Proofs.GoSrcSov — runtime.Sov as translated from the Go source is the model `sov`.
-/
import Pulsar.ExtractedFns
import Pulsar.Proofs.GoSrcBase
import Pulsar.Proofs.RuntimeVarint
namespace Pulsar

/-- by exhaustion over the possible bit lengths: whatever arithmetic the source uses to turn `bits.Len64(x|1)` (or
    `bits.Len64(x)`) into a byte count is evaluated for each of them (robust against rewrites of the formula) -/
theorem src_Sov (x : Nat) (hx : x < 18446744073709551616) : Xf.runtime_Sov x = .ok (sov x : Int) := by
  by_cases hx0 : x = 0
  · subst hx0
    have h0 : bitLen 0 = 0 := bitLen_zero
    have h1 : bitLen (0 ||| 1) = 1 := by
      rw [show (0 ||| 1 : Nat) = 1 from rfl, bitLen_pos (by decide), show (1 / 2 : Nat) = 0 from rfl, bitLen_zero]
    unfold Xf.runtime_Sov sov Go.bitsLen64
    simp only [h0, h1]
    decide
  · have hb : bitLen x ≤ 64 := (bitLen_le_iff 64 x).2 (by simpa using hx)
    have hb1 : 1 ≤ bitLen x := by rw [bitLen_pos hx0]; omega
    have hor : bitLen (x ||| 1) = bitLen x := bitLen_or_one_of_ne_zero hx0
    unfold Xf.runtime_Sov sov Go.bitsLen64
    simp only [hor]
    generalize bitLen x = n at hb hb1 ⊢
    revert n
    decide

end Pulsar
