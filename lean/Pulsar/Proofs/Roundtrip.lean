/-
  Pulsar.Proofs.Roundtrip — the round trip through the strict reference decoder, above the field: the known fields
  of a message in `sortFV` order and its unknown records, one level, the tree, for the reference encoder with any
  map-entry order. At the end (`Counter`) why a bound on the length of the encoding is needed.
-/
import Pulsar.Proofs.RtField
namespace Pulsar

section level
variable {S : Schema} {i : Nat} {cd : Nat → Val → Bytes → Res Val}

theorem unknown_rt : ∀ (fuel : Nat) (bs acc : Bytes) (ss : List Val),
    unknownRecordsOK (S.msg i).fields fuel bs = true →
    Steps S i cd (.msg ss acc) bs (.msg ss (acc ++ bs)) [] := by
  intro fuel
  induction fuel with
  | zero =>
    intro bs acc ss h
    simp only [unknownRecordsOK, List.isEmpty_iff] at h
    subst h
    rw [List.append_nil]; exact Steps.refl _ _
  | succ fuel ih =>
    intro bs acc ss h
    rw [unknownRecordsOK] at h
    by_cases hb : bs = []
    · subst hb; rw [List.append_nil]; exact Steps.refl _ _
    · have hb' : bs.isEmpty = false := by simpa using hb
      simp only [hb', Bool.false_eq_true, if_false] at h
      split at h
      · rename_i num wt r n ht hf
        simp only [Bool.and_eq_true, decide_eq_true_eq, Bool.not_eq_true'] at h
        obtain ⟨⟨⟨hnum, hnf⟩, hn⟩, hrec⟩ := h
        obtain ⟨num', wt', r', rest2, ht', hv, hn', hlt, hdrop⟩ := consumeField_eq_ok hf
        rw [ht] at ht'
        cases ht'
        have hstep : Steps S i cd (.msg ss acc) bs (.msg ss (acc ++ bs.take n)) rest2 := by
          have := specStep_unknown (S := S) (i := i) (cd := cd) (m := .msg ss acc) ht hnum
            (findField_none hnf) (consumeValue_fuel hv)
          rw [← hn'] at this
          exact Steps.of_specStep this hlt
        have h2 := hstep.trans (ih rest2 (acc ++ bs.take n) ss (by rw [← hdrop]; exact hrec))
        rw [← hdrop, List.append_assoc, List.take_append_drop] at h2
        exact h2
      · simp at h

theorem repSlot_oneof_none {rn : Nat → Val → Val} {f : FieldDesc} {x : Val} (h : f.isOneof = true)
    (hx : repSlot rn f x = repSlot rn f .none) : x = .none := by
  obtain ⟨g, hs⟩ := FieldDesc.isOneof_iff.1 h
  simp only [repSlot, hs] at hx
  cases x <;> simp at hx ⊢

section fields
variable {n B : Nat} {cOK cU cK : Nat → Val → Bool} {child : Nat → Val → Bytes} {rn : Nat → Val → Val}
  (H : RtChild S B cOK cU cK child cd rn) (hB : B ≤ 18446744073709551616)
  {ord : Kind → List Val → List Val} (hord : ∀ kk es, (ord kk es).Perm es)
include H hB hord

theorem fields_rt (hwfm : (S.msg i).wf n = true) {slots : List Val} {u : Bytes}
    (hslen : slots.length = (S.msg i).fields.length)
    (hslots : ∀ p ∈ (S.msg i).fields.zip slots, slotOK cOK false p.1 p.2 = true ∧
      utf8Slot cU p.1 p.2 = true ∧ unknownSlot cK p.1 p.2 = true)
    (hone : oneofOK ((S.msg i).fields.zip slots) = true) :
    ∀ (l : List (FieldDesc × Val)), (∀ p ∈ l, p ∈ (S.msg i).fields.zip slots) →
      l.Pairwise (fun a b => a.1.num ≠ b.1.num) →
      ∀ (ss : List Val) (rest : Bytes), ss.length = (S.msg i).fields.length →
      (∀ j f v, (S.msg i).fields[j]? = some f → slots[j]? = some v →
        ((f, v) ∈ l → ss.getD j .none = f.zero) ∧
        ((f, v) ∉ l → repSlot rn f (ss.getD j .none) = repSlot rn f v)) →
      ((l.map (fun p => gField ord child p.1 p.2)).flatten.length ≤ B) →
      ∃ ss', ss'.length = (S.msg i).fields.length ∧
        (∀ j f v, (S.msg i).fields[j]? = some f → slots[j]? = some v →
          repSlot rn f (ss'.getD j .none) = repSlot rn f v) ∧
        Steps S i cd (.msg ss u) ((l.map (fun p => gField ord child p.1 p.2)).flatten ++ rest) (.msg ss' u) rest := by
  -- `l`: the fields still to be decoded. The invariant on the decoder's slots `ss`: the slot of a field in `l` still
  -- holds the zero value; the slot of a field not in `l` already equals the encoded one up to `repSlot`
  have hdist := MsgDesc.wf_distinct hwfm
  intro l
  induction l with
  | nil =>
    intro _ _ ss rest hl hinv _
    exact ⟨ss, hl, fun j f v hf hv => (hinv j f v hf hv).2 (by simp), by simpa using Steps.refl _ _⟩
  | cons p l ih =>
    intro hmem hpw ss rest hl hinv hlen
    obtain ⟨f, v⟩ := p
    rw [List.pairwise_cons] at hpw
    have hpz := hmem (f, v) List.mem_cons_self
    obtain ⟨j, hjf, hjv⟩ := mem_zip_iff_getElem?.1 hpz
    simp only at hjf hjv
    have hjlt : j < ss.length := hl ▸ lt_of_getElem?_some hjf
    have hfmem : f ∈ (S.msg i).fields := List.mem_of_getElem? hjf
    obtain ⟨hok, hu8, hunk⟩ := hslots (f, v) hpz
    simp only [List.map_cons, List.flatten_cons, List.length_append, List.append_assoc] at hlen ⊢
    have hcur := (hinv j f v hjf hjv).1 List.mem_cons_self
    -- the other members of an active oneof group are unset
    have hclr : ∀ g, f.shape = .oneof g → v.isNone = false →
        clearGroup (S.msg i).fields g ss = ss := by
      intro g hs hvn
      apply clearGroup_eq_self _ _ _ hl
      intro k fk hk hg
      have hfg : f.group? = some g := by simp [FieldDesc.group?, hs]
      have hfko : fk.isOneof = true := by rw [isOneof_eq_isSome, hg]; rfl
      by_cases hkj : k = j
      · subst hkj
        rw [hjf] at hk
        simp only [Option.some.injEq] at hk; subst hk
        rw [hcur]; exact FieldDesc.zero_oneof (FieldDesc.group?_eq_some.1 hg)
      · have hvk : slots[k]? = some .none := by
          rw [List.getElem?_eq_getElem (hslen ▸ lt_of_getElem?_some hk), List.getElem_eq_getD .none,
            oneofOK_other_none hone hjf hk hfg hg (by rw [List.getD_eq_getElem?_getD, hjv]; exact hvn) hkj]
        by_cases hin : (fk, Val.none) ∈ (f, v) :: l
        · rw [((hinv k fk .none hk hvk).1 hin)]; exact FieldDesc.zero_oneof (FieldDesc.group?_eq_some.1 hg)
        · exact repSlot_oneof_none hfko ((hinv k fk .none hk hvk).2 hin)
    obtain ⟨v', hst, hrep⟩ := field_rt (ss := ss) (u := u) H hB hord
      (findField_of_getElem? hdist hjf) (MsgDesc.wf_field hwfm hfmem) hok hu8 hunk
      (show (gField ord child f v).length ≤ B by omega) hjlt hcur hclr
      ((l.map (fun p => gField ord child p.1 p.2)).flatten ++ rest)
    obtain ⟨ss', hl', hfin, hst2⟩ := ih (fun q hq => hmem q (List.mem_cons_of_mem _ hq)) hpw.2
      (ss.set j v') rest (by simpa using hl)
      (by
        intro k fk vk hk hvk
        by_cases hkj : k = j
        · subst hkj
          rw [hjf] at hk; rw [hjv] at hvk
          simp only [Option.some.injEq] at hk hvk; subst hk; subst hvk
          refine ⟨fun hin => absurd rfl (hpw.1 _ hin), fun _ => ?_⟩
          rw [getD_set_self hjlt]; exact hrep
        · rw [getD_set_ne (Ne.symm hkj)]
          have hne : (fk, vk) ≠ (f, v) := by
            intro h
            simp only [Prod.mk.injEq] at h
            exact hkj (index_unique hdist hk hjf (by rw [h.1]))
          refine ⟨fun hin => (hinv k fk vk hk hvk).1 (List.mem_cons_of_mem _ hin), fun hnin => ?_⟩
          apply (hinv k fk vk hk hvk).2
          intro hin
          rcases List.mem_cons.1 hin with h | h
          · exact hne h
          · exact hnin h)
      (by omega)
    exact ⟨ss', hl', hfin, hst.trans hst2⟩

end fields

end level

section level
variable {S : Schema} {i : Nat} {cd : Nat → Val → Bytes → Res Val}
  {B : Nat} {cOK cU cK : Nat → Val → Bool} {child : Nat → Val → Bytes} {rn : Nat → Val → Val}

theorem level_rt (hS : S.WF = true)
    (H : RtChild S B cOK cU cK child cd rn) (hB : B ≤ 18446744073709551616)
    {ord : Kind → List Val → List Val} (hord : ∀ kk es, (ord kk es).Perm es)
    {slots : List Val} {u : Bytes}
    (hv : msgOKLvl S false cOK i (.msg slots u) = true)
    (hu : ((S.msg i).fields.zip slots).all (fun p => utf8Slot cU p.1 p.2) = true)
    (hk1 : unknownRecordsOK (S.msg i).fields u.length u = true)
    (hk2 : ((S.msg i).fields.zip slots).all (fun p => unknownSlot cK p.1 p.2) = true)
    (hlen : (gEncodeLvl S ord i child (.msg slots u)).length ≤ B) :
    ∃ ss', (∀ fuel, (gEncodeLvl S ord i child (.msg slots u)).length ≤ fuel →
        specDecodeLoop true S i {} cd fuel (emptyMsg S i) (gEncodeLvl S ord i child (.msg slots u)) =
          .ok (.msg ss' u)) ∧
      ((S.msg i).fields.zip ss').map (fun p => repSlot rn p.1 p.2) =
        ((S.msg i).fields.zip slots).map (fun p => repSlot rn p.1 p.2) := by
  obtain ⟨_, _, hmsg, hslen, hslots, hone⟩ := msgOKLvl_iff.1 hv
  cases hmsg
  simp only [List.all_eq_true] at hu hk2
  have hmwf := Schema.msg_wf hS i
  have hdist := MsgDesc.wf_distinct hmwf
  have hperm : (sortFV ((S.msg i).fields.zip slots)).Perm ((S.msg i).fields.zip slots) := by
    rw [sortFV_eq]; exact isort_perm _ _
  simp only [gEncodeLvl, Val.slots, Val.unknown, List.length_append] at hlen ⊢
  obtain ⟨ss', hl', hfin, hst⟩ := fields_rt (S := S) (i := i) (cd := cd) H hB hord hmwf (u := [])
    hslen (fun p hp => ⟨hslots p hp, hu p hp, hk2 p hp⟩) hone
    (sortFV ((S.msg i).fields.zip slots)) (fun p hp => hperm.mem_iff.1 hp)
    (hperm.symm.pairwise (zip_distinct (num := FieldDesc.num) hdist slots) (fun {a b} h => Ne.symm h))
    ((S.msg i).fields.map FieldDesc.zero) u (by simp)
    (by
      intro j f v hf hv
      refine ⟨fun _ => ?_, fun hnin => absurd (hperm.mem_iff.2 (mem_zip_iff_getElem?.2 ⟨j, hf, hv⟩)) hnin⟩
      simp [List.getD_eq_getElem?_getD, hf])
    (by omega)
  have hst2 := hst.trans (unknown_rt (S := S) (i := i) (cd := cd) u.length u [] ss' hk1)
  refine ⟨ss', ?_, ?_⟩
  · intro fuel hf
    obtain ⟨fuel', _, he⟩ := hst2 fuel (by simpa using hf)
    have : emptyMsg S i = Val.msg ((S.msg i).fields.map FieldDesc.zero) [] := rfl
    rw [this, he, specDecodeLoop_nil]
    simp
  · exact zip_map_congr (fun f v => repSlot rn f v) (d := Val.none) _ ss' slots hl' hslen
      (fun j f v hf hv => hfin j f v hf hv)

end level

theorem tree_rt {S : Schema} (hS : S.WF = true) {ord : Kind → List Val → List Val}
    (hord : ∀ kk es, (ord kk es).Perm es) :
    ∀ (fuel i : Nat) (v : Val) (F depth : Nat),
      msgOK S false fuel i v = true → utf8OK S fuel i v = true → unknownOK S fuel i v = true →
      (gEncode S ord fuel i v).length < 18446744073709551616 →
      (gEncode S ord fuel i v).length + 1 ≤ F → fuel ≤ depth →
      ∃ w, specDecodeInto true S {} F depth i (emptyMsg S i) (gEncode S ord fuel i v) = .ok w ∧
        repNorm S fuel i w = repNorm S fuel i v ∧ w.isNone = false := by
  intro fuel
  induction fuel with
  | zero => intro i v F depth h; simp [msgOK] at h
  | succ fuel ih =>
    intro i v F depth hv hu hk hlen hF hdepth
    obtain ⟨slots, u, rfl⟩ := msgOK_isMsg hv
    obtain ⟨F', rfl⟩ : ∃ F', F = F' + 1 := ⟨F - 1, by omega⟩
    have hg : gEncode S ord (fuel + 1) i (.msg slots u) =
        gEncodeLvl S ord i (gEncode S ord fuel) (.msg slots u) := by
      simp [gEncode, Val.isNone]
    rw [hg] at hlen hF ⊢
    have H : RtChild S (gEncodeLvl S ord i (gEncode S ord fuel) (.msg slots u)).length
        (msgOK S false fuel) (utf8OK S fuel) (unknownOK S fuel) (gEncode S ord fuel)
        (specDecodeInto true S {} F' (depth - 1)) (repNorm S fuel) := by
      refine ⟨fun j x hx => msgOK_not_none hx, ?_⟩
      intro j x hx hxu hxk hxl
      exact ih j x F' (depth - 1) hx hxu hxk (by omega) (by omega) (by omega)
    simp only [msgOK] at hv
    simp only [utf8OK, Val.slots] at hu
    simp only [unknownOK, Val.unknown, Val.slots, Bool.and_eq_true] at hk
    obtain ⟨ss', hdec, hrep⟩ := level_rt hS H (by omega) hord hv hu hk.1 hk.2 (Nat.le_refl _)
    refine ⟨.msg ss' u, ?_, ?_, rfl⟩
    · rw [specDecodeInto]
      rw [if_neg (by omega)]
      exact hdec _ (Nat.le_refl _)
    · simp only [repNorm, hrep]

/-! ### the length bound is needed

  The model's byte strings are unbounded lists, and a `bytes` field of 2^64 bytes gets a length prefix that is not a
  valid varint (ten bytes, the tenth being 2), so `protowire.ConsumeVarint` rejects it. -/

namespace Counter

/-- message { bytes b = 1; } -/
def cS : Schema := ⟨[⟨[⟨1, .scalar .bytes, .singular⟩]⟩]⟩

def cV (b : Bytes) : Val := .msg [.blob true b] []

theorem cS_wf : cS.WF = true := by decide

-- None of the three predicates looks inside `b`: they evaluate to `true` with `b` a variable.
theorem cV_ok (b : Bytes) : msgOK cS false 1 0 (cV b) = true := rfl

theorem cV_utf8 (b : Bytes) : utf8OK cS 1 0 (cV b) = true := rfl

theorem cV_unknown (b : Bytes) : unknownOK cS 1 0 (cV b) = true := rfl

theorem varint_two64 : varint 18446744073709551616 = [128, 128, 128, 128, 128, 128, 128, 128, 128, 2] := by
  decide +kernel

theorem cV_encode (b : Bytes) (hb : b.length = 18446744073709551616) :
    specEncode cS 1 0 (cV b) = tag 1 2 ++ (varint 18446744073709551616 ++ b) := by
  -- with `b` a variable the encoder evaluates down to the presence test of the one field
  have h : specEncode cS 1 0 (cV b) =
      (if specPresent .bytes (.blob true b) then tag 1 2 ++ (varint b.length ++ b) else []) ++ [] ++ [] := rfl
  have hp : specPresent .bytes (.blob true b) = true := by
    simp [specPresent, Kind.isBlob, Val.getBlob, hb]
  rw [h, hp, if_pos rfl, hb, List.append_nil, List.append_nil]

theorem consumeVarint_two64 (rest : Bytes) :
    consumeVarint (varint 18446744073709551616 ++ rest) = .err .overflow := by
  rw [varint_two64]
  rfl

theorem cV_decode (b : Bytes) (hb : b.length = 18446744073709551616) :
    specUnmarshalStrict cS {} 0 (emptyMsg cS 0) (specEncode cS 1 0 (cV b)) = .err .overflow := by
  rw [cV_encode b hb]
  have ht := consumeTag_tag (num := 1) (wt := 2) (by omega) (by omega) (by omega)
    (varint 18446744073709551616 ++ b)
  have hne : tag 1 2 ++ (varint 18446744073709551616 ++ b) ≠ [] :=
    List.append_ne_nil_of_left_ne_nil (varint_ne_nil _) _
  obtain ⟨g, hg⟩ : ∃ g, (tag 1 2 ++ (varint 18446744073709551616 ++ b)).length = g + 1 :=
    ⟨(tag 1 2 ++ (varint 18446744073709551616 ++ b)).length - 1, by
      have := List.length_pos_iff.2 hne; omega⟩
  have hfind : findField (cS.msg 0).fields 1 = some (0, ⟨1, .scalar .bytes, .singular⟩) := by decide
  unfold specUnmarshalStrict
  simp only [Bool.false_eq_true, if_false]
  rw [hg, specDecodeInto, if_neg (by decide), hg, specDecodeLoop]
  simp only [hne, if_false, ht, show ¬ (1 > 536870911) by omega, hfind]
  simp only [Kind.specWireType, if_true, specReadScalar, consumeVarint_two64]

def big : Bytes := List.replicate 18446744073709551616 0

theorem big_length : big.length = 18446744073709551616 := List.length_replicate

end Counter

end Pulsar
