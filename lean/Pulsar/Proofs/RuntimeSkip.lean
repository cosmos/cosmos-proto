/-
  Pulsar.Proofs.RuntimeSkip — the model of `runtime.Skip` (`Pulsar/Runtime.lean`) against protowire (C15, and the
  unknown-field path of the decoder). Each function of the model is described by outcome (`…_out`) and one turn of the
  loop is an equation (`skipLoop_succ`). The main invariant `skip_consume`: what protowire accepts as a value or a
  group body, `Skip`'s loop walks with its flat depth counter; hence `Skip` returns the length of the first record.
-/
import Pulsar.Runtime
import Pulsar.Proofs.Wire
import Pulsar.Proofs.Res
namespace Pulsar

theorem skipReadVarint_out (bs : Bytes) : ∀ k acc, (skipReadVarint k acc bs).Out
    (fun x => k < x.2.1 ∧ x.2.1 + x.2.2.length = k + bs.length ∧ x.2.2 = bs.drop (x.2.1 - k) ∧ x.1 < 18446744073709551616)
    (fun e => e = .eof ∨ e = .overflow) := by
  induction bs with
  | nil => intro k acc; exact .err (.inl rfl)
  | cons b tl ih =>
    intro k acc
    rw [skipReadVarint]
    by_cases hk : k ≥ 10
    · rw [if_pos hk]
      exact .err (.inr rfl)
    · rw [if_neg hk]
      by_cases hb : b.toNat < 128
      · simp only [hb, if_true]
        exact .ok ⟨Nat.lt_succ_self k, by simp only [List.length_cons]; omega, by simp, Nat.mod_lt _ (by decide)⟩
      · by_cases hk9 : k + 1 ≥ 10
        · simp only [hb, hk9, if_true, if_false]
          exact .err (.inr rfl)
        · simp only [hb, hk9, if_false]
          refine (ih (k + 1) _).mono (fun x ⟨h1, h2, h3, h4⟩ => ⟨by omega, ?_, ?_, h4⟩) fun _ h => h
          · simp only [List.length_cons]; omega
          · rw [h3, show x.2.1 - k = (x.2.1 - (k + 1)) + 1 from by omega]; rfl

theorem skipReadVarint_ok {k acc : Nat} {bs : Bytes} {v n : Nat} {rest : Bytes}
    (h : skipReadVarint k acc bs = .ok (v, n, rest)) :
    k < n ∧ n + rest.length = k + bs.length ∧ rest = bs.drop (n - k) ∧ v < 18446744073709551616 :=
  (skipReadVarint_out bs k acc).of_ok h

/-- The `switch wireType` of `runtime.Skip`, after the tag has been read (the `after` of `skipLoop`). -/
def skipAfter (rest1 : Bytes) (consumed1 wt depth : Nat) : Res (Bytes × Nat × Nat) :=
  if wt = 0 then
    match skipReadVarint 0 0 rest1 with
    | .ok (_, m, r) => .ok (r, consumed1 + m, depth)
    | .err e => .err e
    | .panic => .panic
  else if wt = 1 then .ok (rest1.drop 8, consumed1 + 8, depth)
  else if wt = 2 then
    match skipReadVarint 0 0 rest1 with
    | .ok (len, m, r) =>
      if len ≥ 9223372036854775808 then .err .invalidLength
      else .ok (r.drop len, consumed1 + m + len, depth)
    | .err e => .err e
    | .panic => .panic
  else if wt = 3 then .ok (rest1, consumed1, depth + 1)
  else if wt = 4 then
    if depth = 0 then .err .endGroup else .ok (rest1, consumed1, depth - 1)
  else if wt = 5 then .ok (rest1.drop 4, consumed1 + 4, depth)
  else .err .illegalWire

theorem skipAfter_varint (r : Bytes) (c k : Nat) :
    skipAfter r c 0 k = skipReadVarint 0 0 r >>= fun x => pure (x.2.2, c + x.2.1, k) := by
  simp only [skipAfter, if_true]; cases skipReadVarint 0 0 r <;> rfl

theorem skipAfter_fixed64 (r : Bytes) (c k : Nat) : skipAfter r c 1 k = .ok (r.drop 8, c + 8, k) := rfl

theorem skipAfter_bytes (r : Bytes) (c k : Nat) :
    skipAfter r c 2 k = skipReadVarint 0 0 r >>= fun x =>
      if x.1 ≥ 9223372036854775808 then .err .invalidLength else pure (x.2.2.drop x.1, c + x.2.1 + x.1, k) := by
  simp only [skipAfter, Nat.reduceEqDiff, if_false, if_true]; cases skipReadVarint 0 0 r <;> rfl

theorem skipAfter_startGroup (r : Bytes) (c k : Nat) : skipAfter r c 3 k = .ok (r, c, k + 1) := rfl

theorem skipAfter_endGroup (r : Bytes) (c k : Nat) :
    skipAfter r c 4 k = if k = 0 then .err .endGroup else .ok (r, c, k - 1) := rfl

theorem skipAfter_fixed32 (r : Bytes) (c k : Nat) : skipAfter r c 5 k = .ok (r.drop 4, c + 4, k) := rfl

theorem skipAfter_illegal {wt : Nat} (h : 6 ≤ wt) (r : Bytes) (c k : Nat) : skipAfter r c wt k = .err .illegalWire := by
  simp only [skipAfter]
  rw [if_neg (by omega), if_neg (by omega), if_neg (by omega), if_neg (by omega), if_neg (by omega), if_neg (by omega)]

theorem skipAfter_out (r : Bytes) (c wt d : Nat) :
    (skipAfter r c wt d).Out (fun s => c ≤ s.2.1 ∧ s.1.length ≤ r.length) (· ≠ .other) := by
  have hE : ∀ e : Err, e = .eof ∨ e = .overflow → e ≠ .other := by
    rintro e (rfl | rfl) <;> simp
  match wt with
  | 0 =>
    rw [skipAfter_varint]
    refine (skipReadVarint_out r 0 0).bind hE fun x _ ⟨_, _, h3, _⟩ => .ok ?_
    simp only [h3, List.length_drop]
    omega
  | 1 => exact .ok ⟨Nat.le_add_right c 8, by simp⟩
  | 2 =>
    rw [skipAfter_bytes]
    refine (skipReadVarint_out r 0 0).bind hE fun x _ ⟨_, _, h3, _⟩ => ?_
    split
    · exact .err (by simp)
    · refine .ok ?_
      simp only [h3, List.length_drop]
      omega
  | 3 => exact .ok ⟨Nat.le_refl _, Nat.le_refl _⟩
  | 4 =>
    rw [skipAfter_endGroup]
    split
    · exact .err (by simp)
    · exact .ok ⟨Nat.le_refl _, Nat.le_refl _⟩
  | 5 => exact .ok ⟨Nat.le_add_right c 4, by simp⟩
  | n + 6 =>
    rw [skipAfter_illegal (Nat.le_add_left 6 n)]
    exact .err (by simp)

theorem skipAfter_ok {r : Bytes} {c wt d : Nat} {r2 : Bytes} {c2 d2 : Nat}
    (h : skipAfter r c wt d = .ok (r2, c2, d2)) : c ≤ c2 ∧ r2.length ≤ r.length :=
  (skipAfter_out r c wt d).of_ok h

theorem skipLoop_succ (fuel : Nat) (rest : Bytes) (c depth : Nat) :
    skipLoop (fuel + 1) rest c depth =
      if rest = [] then .err .eof else
      skipReadVarint 0 0 rest >>= fun t => skipAfter t.2.2 (c + t.2.1) (t.1 % 8) depth >>= fun s =>
        if s.2.1 ≥ 9223372036854775808 then .err .invalidLength
        else if s.2.2 = 0 then .ok s.2.1
        else skipLoop fuel s.1 s.2.1 s.2.2 := by
  by_cases hnil : rest = []
  · rw [skipLoop, if_pos hnil, if_pos hnil]
  · rw [skipLoop, if_neg hnil, if_neg hnil]
    rcases skipReadVarint 0 0 rest with ⟨wire, n, rest1⟩ | e | _
    · rw [Res.bind_ok]
      show (match skipAfter rest1 (c + n) (wire % 8) depth with
        | .err e => Res.err e
        | .panic => Res.panic
        | .ok (rest2, c2, d2) =>
          if c2 ≥ 9223372036854775808 then Res.err Err.invalidLength
          else if d2 = 0 then .ok c2 else skipLoop fuel rest2 c2 d2) = _
      rcases skipAfter rest1 (c + n) (wire % 8) depth with ⟨r2, c2, d2⟩ | e | _ <;> rfl
    · rfl
    · rfl

theorem skipLoop_out (fuel : Nat) : ∀ rest c k, (skipLoop fuel rest c k).Out (c < ·) (· ≠ .other) := by
  induction fuel with
  | zero => intro rest c k; exact .err (by simp)
  | succ f ih =>
    intro rest c k
    rw [skipLoop_succ]
    split
    · exact .err (by simp)
    · refine (skipReadVarint_out rest 0 0).bind (by rintro e (rfl | rfl) <;> simp) fun t _ ⟨ht, _⟩ => ?_
      refine (skipAfter_out _ _ _ _).bind (fun _ h => h) fun s _ ⟨hs, _⟩ => ?_
      split
      · exact .err (by simp)
      · split
        · exact .ok (show c < s.2.1 by omega)
        · exact (ih _ _ _).mono (fun m (hm : s.2.1 < m) => show c < m by omega) fun _ h => h

theorem skipLoop_fuel (F1 : Nat) : ∀ (F2 : Nat) (rest : Bytes) (c k : Nat),
    rest.length ≤ F1 → rest.length ≤ F2 → skipLoop F1 rest c k = skipLoop F2 rest c k := by
  induction F1 with
  | zero =>
    intro F2 rest c k h1 _
    obtain rfl : rest = [] := List.eq_nil_of_length_eq_zero (by omega)
    cases F2 <;> rfl
  | succ F1 ih =>
    intro F2 rest c k h1 h2
    cases F2 with
    | zero =>
      obtain rfl : rest = [] := List.eq_nil_of_length_eq_zero (by omega)
      rfl
    | succ F2 =>
      rw [skipLoop_succ, skipLoop_succ]
      split
      · rfl
      · refine Res.bind_congr fun ⟨wire, n, rest1⟩ ht => Res.bind_congr fun ⟨r2, c2, d2⟩ hs => ?_
        -- the tag took at least one byte and the switch gives none back
        dsimp only at hs ⊢
        have := (skipReadVarint_ok ht).2.1
        have := (skipReadVarint_ok ht).1
        have := (skipAfter_ok hs).2
        split
        · rfl
        · split
          · rfl
          · exact ih _ _ _ _ (by omega) (by omega)

/-! ## what protowire's varint reader accepts, `Skip`'s reader reads the same way -/

theorem varint_acc_bound {k acc x : Nat} (hacc : acc < 2 ^ (7 * k)) (hx : x < 128) :
    acc + x * 2 ^ (7 * k) < 2 ^ (7 * (k + 1)) := by
  have e : 2 ^ (7 * (k + 1)) = 128 * 2 ^ (7 * k) := by
    rw [Nat.mul_add, Nat.pow_add]; simp [Nat.mul_comm]
  have : x * 2 ^ (7 * k) ≤ 127 * 2 ^ (7 * k) := Nat.mul_le_mul_right _ (by omega)
  rw [e]; omega

/-- the 64-bit cut of `skipReadVarint` does nothing up to the ninth byte -/
theorem varint_acc_mod {k acc x : Nat} (hacc : acc < 2 ^ (7 * k)) (hx : x < 128) (hk : k + 1 ≤ 9) :
    (acc + x * 2 ^ (7 * k)) % 18446744073709551616 = acc + x * 2 ^ (7 * k) := by
  have h1 := varint_acc_bound hacc hx
  have h2 : (2 : Nat) ^ (7 * (k + 1)) ≤ 2 ^ 63 := Nat.pow_le_pow_right (by decide) (by omega)
  exact Nat.mod_eq_of_lt (Nat.lt_of_lt_of_le h1 (Nat.le_trans h2 (by decide)))

theorem consumeVarintAux_skip (bs : Bytes) : ∀ k shift acc v rest,
    shift = 7 * k → k ≤ 9 → acc < 2 ^ (7 * k) →
    consumeVarintAux k shift acc bs = .ok (v, rest) →
    ∃ n, skipReadVarint k acc bs = .ok (v, n, rest) := by
  induction bs with
  | nil => intro k shift acc v rest _ _ _ h; simp [consumeVarintAux] at h
  | cons b tl ih =>
    intro k shift acc v rest hs hk hacc h
    subst hs
    have hb : b.toNat < 256 := UInt8.toNat_lt b
    rw [consumeVarintAux] at h
    rw [skipReadVarint]
    have hk10 : ¬ (k ≥ 10) := by omega
    simp only [hk10, if_false]
    split at h
    · -- tenth byte
      rename_i hk9
      subst hk9
      split at h
      · rename_i hb2
        simp only [Res.ok.injEq, Prod.mk.injEq] at h
        obtain ⟨rfl, rfl⟩ := h
        have hb128 : b.toNat < 128 := by omega
        simp only [hb128, if_true]
        have hm : b.toNat % 128 = b.toNat := by omega
        rw [hm]
        have : acc + b.toNat * 2 ^ (7 * 9) < 18446744073709551616 := by
          simp only [Nat.reduceMul, Nat.reducePow] at hacc ⊢; omega
        rw [Nat.mod_eq_of_lt this]
        exact ⟨_, rfl⟩
      · simp at h
    · rename_i hk9
      have hk8 : k + 1 ≤ 9 := by omega
      have hx : b.toNat % 128 < 128 := Nat.mod_lt _ (by decide)
      have hbound := varint_acc_bound hacc hx
      rw [varint_acc_mod hacc hx hk8]
      split at h
      · rename_i hb128
        simp only [Res.ok.injEq, Prod.mk.injEq] at h
        obtain ⟨rfl, rfl⟩ := h
        simp only [hb128, if_true]
        have hm : b.toNat % 128 = b.toNat := by omega
        rw [hm]
        exact ⟨_, rfl⟩
      · rename_i hb128
        have hk' : ¬ (k + 1 ≥ 10) := by omega
        simp only [hb128, hk', if_false]
        have hm : b.toNat - 128 = b.toNat % 128 := by omega
        rw [hm] at h
        exact ih (k + 1) (7 * k + 7) _ v rest (by omega) hk8 hbound h

theorem consumeVarint_skip {bs : Bytes} {v : Nat} {rest : Bytes}
    (h : consumeVarint bs = .ok (v, rest)) :
    skipReadVarint 0 0 bs = .ok (v, bs.length - rest.length, rest) ∧ rest.length < bs.length := by
  obtain ⟨n, hn⟩ := consumeVarintAux_skip bs 0 0 0 v rest (by omega) (by omega) (by simp) h
  obtain ⟨hpos, hcnt, -, -⟩ := skipReadVarint_ok hn
  obtain rfl : n = bs.length - rest.length := by omega
  exact ⟨hn, by omega⟩

theorem consumeTag_skip {bs : Bytes} {num typ : Nat} {rest1 : Bytes}
    (h : consumeTag bs = .ok (num, typ, rest1)) :
    ∃ wire, skipReadVarint 0 0 bs = .ok (wire, bs.length - rest1.length, rest1) ∧ wire % 8 = typ ∧
      rest1.length < bs.length := by
  obtain ⟨wire, hv, _, hw, _⟩ := consumeTag_inv h
  obtain ⟨hn, hl⟩ := consumeVarint_skip hv
  exact ⟨wire, hn, hw, hl⟩

/-! ## protowire record structure vs. the flat depth counter of `Skip` -/

/-- From depth `k` and with fuel for all of `bs`, `Skip`'s loop walks `bs` down to its proper suffix `rest`, where it
    returns `iNdEx` if the depth `k'` is back to 0 and otherwise goes on with fuel for all of `rest`. The bound on
    `c`: Go's `int` does not wrap below 2^63.
    It is proved only of what protowire accepts (`Walks.step`, `skip_consume`) and says nothing of `Skip`'s errors.
    `F'` is existential: a turn of the loop costs one unit of fuel however much it reads, so what is left is no
    function of `rest`. To leave it at `k' = 0` (`skip_record`): `h.2 bs.length c (Nat.le_refl _) hc`, then
    `if_pos rfl`. -/
def Walks (bs rest : Bytes) (k k' : Nat) : Prop :=
  rest.length < bs.length ∧ ∀ F c, bs.length ≤ F → c + bs.length < 9223372036854775808 →
    ∃ F', rest.length ≤ F' ∧
      skipLoop F bs c k = if k' = 0 then .ok (c + (bs.length - rest.length))
        else skipLoop F' rest (c + (bs.length - rest.length)) k'

theorem Walks.trans {a b c : Bytes} {k k' k'' : Nat} (h1 : Walks a b k (k' + 1)) (h2 : Walks b c (k' + 1) k'') :
    Walks a c k k'' := by
  have := h1.1
  have := h2.1
  refine ⟨by omega, fun F i hF hi => ?_⟩
  obtain ⟨F1, hF1, e1⟩ := h1.2 F i hF hi
  obtain ⟨F2, hF2, e2⟩ := h2.2 F1 (i + (a.length - b.length)) hF1 (by omega)
  refine ⟨F2, hF2, ?_⟩
  rw [e1, if_neg (by omega), e2,
    show i + (a.length - b.length) + (b.length - c.length) = i + (a.length - c.length) by omega]

theorem Walks.step {bs rest1 r2 : Bytes} {num typ k k' : Nat} (ht : consumeTag bs = .ok (num, typ, rest1))
    (hle : r2.length ≤ rest1.length)
    (ha : ∀ c, c + rest1.length < 9223372036854775808 →
      skipAfter rest1 c typ k = .ok (r2, c + (rest1.length - r2.length), k')) : Walks bs r2 k k' := by
  obtain ⟨wire, h1, hw, hlt⟩ := consumeTag_skip ht
  refine ⟨by omega, fun F c hF hc => ?_⟩
  obtain ⟨F, rfl⟩ : ∃ F', F = F' + 1 := ⟨F - 1, by omega⟩
  refine ⟨F, by omega, ?_⟩
  rw [skipLoop_succ, if_neg (ne_nil_of_consumeTag ht), h1, Res.bind_ok, hw,
    ha (c + (bs.length - rest1.length)) (by omega), Res.bind_ok,
    show c + (bs.length - rest1.length) + (rest1.length - r2.length) = c + (bs.length - r2.length) by omega,
    if_neg (show ¬ c + (bs.length - r2.length) ≥ 9223372036854775808 by omega)]

/-- A value that is not a group is one turn of the loop that leaves the depth alone; a start-group tag raises the
    depth for the walk through the body, whose end-group tag lowers it again. -/
theorem skip_consume (f : Nat) :
    (∀ d num typ (rest1 rest2 : Bytes), consumeValue f d num typ rest1 = .ok rest2 →
      ∀ bs k, consumeTag bs = .ok (num, typ, rest1) → Walks bs rest2 k k) ∧
    (∀ d num (bs rest : Bytes), consumeGroup f d num bs = .ok rest → ∀ k, Walks bs rest (k + 1) k) :=
  consume_induct (f := f)
    (PV := fun _ _ num typ rest1 rest2 => ∀ bs k, consumeTag bs = .ok (num, typ, rest1) → Walks bs rest2 k k)
    (PG := fun _ _ _ bs rest => ∀ k, Walks bs rest (k + 1) k)
    (varint := fun _ _ _ p v r hcv bs k ht => by
      obtain ⟨hm, _⟩ := consumeVarint_skip hcv
      exact .step ht (by omega) fun c _ => by rw [skipAfter_varint, hm]; rfl)
    (fixed32 := fun _ _ _ p hl bs k ht =>
      .step ht (by simp) fun c _ => by rw [skipAfter_fixed32, List.length_drop]; congr 3; omega)
    (fixed64 := fun _ _ _ p hl bs k ht =>
      .step ht (by simp) fun c _ => by rw [skipAfter_fixed64, List.length_drop]; congr 3; omega)
    (bytes := fun _ _ _ p v q hcv hl bs k ht => by
      obtain ⟨hm, _⟩ := consumeVarint_skip hcv
      exact .step ht (by simp; omega) fun c hc => by
        rw [skipAfter_bytes, hm, Res.bind_ok, if_neg (by simp only []; omega), List.length_drop]
        simp only [Res.pure_eq]; congr 3; omega)
    (group := fun _ _ _ p r _ ihG bs k ht =>
      (Walks.step ht (Nat.le_refl _) fun c _ => by rw [skipAfter_startGroup, Nat.sub_self]; rfl).trans (ihG k))
    (endGroup := fun _ _ _ p r ht k =>
      .step ht (Nat.le_refl _) fun c _ => by rw [skipAfter_endGroup, Nat.sub_self]; rfl)
    (field := fun _ _ _ p _ _ q q2 r ht _ _ _ ihV ihG k => (ihV p (k + 1) ht).trans (ihG k))

/-- On a record protowire accepts, `skip` returns its length. On other input a successful `skip` may return more than
    `bs.length` (`skip [0x09] = .ok 9`): wire types 1, 2 and 5 advance `iNdEx` without looking at the input, and
    `Skip` leaves the comparison with `len(dAtA)` to its callers. -/
theorem skip_record {bs r r' : Bytes} {num wt f d : Nat} (ht : consumeTag bs = .ok (num, wt, r))
    (hv : consumeValue f d num wt r = .ok r') (hl : bs.length < 9223372036854775808) :
    skip bs = .ok (bs.length - r'.length) ∧ r'.length < bs.length := by
  obtain ⟨hlt, h⟩ := (skip_consume f).1 d num wt r r' hv bs 0 ht
  obtain ⟨_, _, e⟩ := h bs.length 0 (Nat.le_refl _) (by omega)
  exact ⟨by rw [skip, e, if_pos rfl, Nat.zero_add], hlt⟩

theorem skip_len_of_consumeField {bs : Bytes} {n : Nat} (hl : bs.length < 9223372036854775808)
    (h : consumeField bs = .ok n) : skip bs = .ok n := by
  obtain ⟨num, typ, rest, rest2, ht, hv, rfl, -, -⟩ := consumeField_eq_ok h
  exact (skip_record ht hv hl).1

theorem skip_ne_panic (bs : Bytes) : skip bs ≠ .panic := (skipLoop_out bs.length bs 0 0).ne_panic

theorem skip_progress (bs : Bytes) (n : Nat) (h : skip bs = .ok n) : 0 < n := (skipLoop_out bs.length bs 0 0).of_ok h

/-- the model has no "out of fuel" outcome -/
theorem skip_ne_other (bs : Bytes) : skip bs ≠ .err .other := fun h => (skipLoop_out bs.length bs 0 0).of_err h rfl

end Pulsar
