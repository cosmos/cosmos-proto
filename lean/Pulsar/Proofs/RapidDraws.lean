/-
  How the draw-level rapidproto model consumes its draws (`Fine`, layer by layer): with the fuel
  `depthLimit + 2 - depth` a replay is never out of fuel and `Truncate(i)` is never out of range, draws are
  consumed left to right, and no scalar draw is made for a kind a field mapper answers for.
-/
import Pulsar.Proofs.RapidSlot
namespace Pulsar.Rapidproto

theorem rp_fine_genScalar (o : GenOpts) (E : List Int) (k : Kind) (ds : List Draw) :
    Fine o E (genScalar o E k ds) ds := by
  unfold genScalar
  split
  · exact FineW.ok _ _
  · rename_i hn
    exact (Fine.draw _ (fun _ => Or.inr (Or.inr ⟨k, hn, rfl⟩)) ds).map

theorem rp_fine_listScalars (o : GenOpts) (E : List Int) (k : Kind) : ∀ (n : Nat) (es : List Val) (ds : List Draw),
    Fine o E (listScalars o E k n es ds) ds
  | 0, _, _ => FineW.ok _ _
  | n+1, _, ds => (rp_fine_genScalar o E k ds).bind (fun _ rest => rp_fine_listScalars o E k n _ rest)

theorem rp_fine_mapScalars (o : GenOpts) (E : List Int) (kk vk : Kind) :
    ∀ (n : Nat) (es : List Val) (ds : List Draw), Fine o E (mapScalars o E kk vk n es ds) ds
  | 0, _, _ => FineW.ok _ _
  | n+1, _, ds => (rp_fine_genScalar o E kk ds).bind (fun _ rest =>
      (rp_fine_genScalar o E vk rest).bind (fun _ rest' => rp_fine_mapScalars o E kk vk n _ rest'))

section
variable {S : Schema} {o : GenOpts} {E : List Int} {child : Nat → Val → List Draw → R (Bool × Val)}
  (hc : ∀ mi v ds, Fine o E (child mi v ds) ds)
include hc

/-- `Truncate(i)` is always in range: iteration `i` starts with at least `i - 1` elements -/
theorem rp_fine_listMsgs (mi : Nat) : ∀ (n i : Nat) (es : List Val) (ds : List Draw), i ≤ es.length + 1 →
    Fine o E (listMsgs S child mi n i es ds) ds
  | 0, _, _, _, _ => FineW.ok _ _
  | n+1, i, es, ds, hi => by
    simp only [listMsgs]
    refine (hc _ _ _).bind (fun r rest => ?_)
    have hlen : i ≤ (es ++ [r.2]).length := by simp; omega
    rw [if_pos hlen]
    split
    · exact rp_fine_listMsgs mi n (i+1) _ rest (by simp; omega)
    · exact rp_fine_listMsgs mi n (i+1) _ rest (by simp [List.length_take]; omega)

theorem rp_fine_mapMsgs (kk : Kind) (mi : Nat) : ∀ (n : Nat) (es : List Val) (ds : List Draw),
    Fine o E (mapMsgs S o E child kk mi n es ds) ds
  | 0, _, _ => FineW.ok _ _
  | n+1, _, ds => (rp_fine_genScalar o E kk ds).bind (fun _ _ =>
      (hc _ _ _).bind (fun _ rest' => rp_fine_mapMsgs kk mi n _ rest'))

theorem rp_fine_genSlot (f : FieldDesc) (cur : Val) (ds : List Draw) :
    Fine o E (genSlot S o E child f cur ds) ds := by
  unfold genSlot
  cases f.shape <;> cases f.elem <;> simp only []
  -- singular scalar
  · exact rp_fine_genScalar _ _ _ _
  -- singular message
  · exact (hc _ _ _).map
  -- repeated scalar
  · exact (Fine.count _ _).bind (fun _ _ => (rp_fine_listScalars _ _ _ _ _ _).map)
  -- repeated message
  · exact (Fine.count _ _).bind (fun _ _ => (rp_fine_listMsgs hc _ _ 0 _ _ (by omega)).map)
  -- oneof scalar
  · exact (rp_fine_genScalar _ _ _ _).map
  -- oneof message
  · exact (hc _ _ _).map
  -- map scalar
  · exact (Fine.count _ _).bind (fun _ _ => (rp_fine_mapScalars _ _ _ _ _ _ _).map)
  -- map message
  · exact (Fine.count _ _).bind (fun _ _ => (rp_fine_mapMsgs hc _ _ _ _ _).map)

theorem rp_fine_genFields (fs : List FieldDesc) :
    ∀ (rem : List FieldDesc) (j : Nat) (slots : List Val) (ds : List Draw),
    Fine o E (genFields S o E child fs j rem slots ds) ds
  | [], _, _, _ => FineW.ok _ _
  | f :: rem, j, slots, ds => by
    simp only [genFields]
    refine (Fine.flag ds).bind (fun g rest => ?_)
    split
    · exact rp_fine_genFields fs rem (j+1) slots rest
    · rw [rp_genField_eq]
      exact (rp_fine_genSlot hc f _ rest).map.bind (fun slots' rest' => rp_fine_genFields fs rem (j+1) slots' rest')
end

theorem rp_fine_setFields (S : Schema) (o : GenOpts) (E : List Int) : ∀ (fuel depth i : Nat) (v : Val)
    (ds : List Draw), Extracted.depthLimit + 1 ≤ fuel + depth → Fine o E (setFields S o E fuel depth i v ds) ds
  | 0, depth, i, v, ds, h => by
    simp only [setFields]
    rw [if_pos (by omega)]
    exact FineW.ok _ _
  | fuel+1, depth, i, v, ds, h => by
    simp only [setFields]
    split
    · exact FineW.ok _ _
    · exact (rp_fine_genFields
        (fun mi v ds => rp_fine_setFields S o E fuel (depth+1) mi v ds (by omega)) _ _ _ _ _).map

theorem rp_fuelFor_ge (depth : Nat) : Extracted.depthLimit + 1 ≤ fuelFor depth + depth := by
  unfold fuelFor; omega

theorem rp_fine_generate (S : Schema) (o : GenOpts) (E : List Int) (i : Nat) (ds : List Draw) :
    FineW (fun w => Benign w ∨ w = .leftover) o E (generate S o E i ds) ds := by
  unfold generate
  refine FineW.bind (FineW.mono ?_ (fun _ => Or.inl)) (fun _ rest => FineW.bind
    ((rp_fine_setFields S o E (fuelFor 0) 0 i (emptyMsg S i) rest (rp_fuelFor_ge 0)).mono (fun _ => Or.inl))
    (fun r rest' => ?_))
  · split
    · exact (Fine.flag ds).map
    · exact FineW.ok _ _
  · cases rest' with
    | nil => exact ⟨rfl, fun _ h => by cases h⟩
    | cons d rest' => exact ⟨Or.inr rfl, Nat.le_refl _⟩

theorem rp_scalarGen_ne (E : List Int) (k : Kind) : scalarGen E k ≠ .flag ∧ ∀ m, scalarGen E k ≠ .count m := by
  cases k <;> simp [scalarGen]

end Pulsar.Rapidproto
