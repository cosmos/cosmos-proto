/-
  The UTF-8 invariant of the IMPL machine: `Op.utf8` says that the strings a write op stores are valid UTF-8;
  such ops preserve `utf8OK` (no typing hypothesis). With it, one step refines the SPEC machine for every op.
-/
import Pulsar.Proofs.Reflect
namespace Pulsar

/-! `Op.utf8 S n i op`: every string the op stores (a `Set`/`Append` argument, a map key that `Map.Set` /
  `Map.Mutable` may insert — also on the way to a nested write) is valid UTF-8, at every depth of a message
  argument. -/

def keyUtf8 (f : FieldDesc) (k : Val) : Bool :=
  match f.shape with | .map kk => kk != .string || utf8Valid k.getBlob | _ => true

def setArgUtf8 (U : Nat → Val → Bool) (f : FieldDesc) (a : Val) : Bool :=
  match f.shape with
  | .singular => utf8Elem U f.elem a
  | .oneof _ => utf8Elem U f.elem a
  | _ => utf8Slot U f a

def WOp.utf8 (U : Nat → Val → Bool) (fs : List FieldDesc) : WOp → Bool
  | .set j a => (match fs[j]? with | some f => setArgUtf8 U f a | none => true)
  | .lset j _ a => (match fs[j]? with | some f => utf8Elem U f.elem a | none => true)
  | .lapp j a => (match fs[j]? with | some f => utf8Elem U f.elem a | none => true)
  | .mset j k a => (match fs[j]? with | some f => keyUtf8 f k && utf8Elem U f.elem a | none => true)
  | .mmut j k => (match fs[j]? with | some f => keyUtf8 f k | none => true)
  | _ => true

/-- the strings `op` may store in a target of type `i` are valid UTF-8 (checked down to `fuel` levels, the
    same fuel `utf8OK` is stated with) -/
def Op.utf8 (S : Schema) : Nat → Nat → Op → Bool
  | 0, _, _ => true
  | fuel+1, i, op =>
    let fs := (S.msg i).fields
    match op with
    | .r _ => true
    | .w o => o.utf8 (utf8OK S fuel) fs
    | .in j op =>
      (match fs[j]? with
       | some f => (match f.elem with | .message mi => Op.utf8 S fuel mi op | _ => true)
       | none => true)
    | .at j _ op =>
      (match fs[j]? with
       | some f => (match f.elem with | .message mi => Op.utf8 S fuel mi op | _ => true)
       | none => true)
    | .mv j k op =>
      (match fs[j]? with
       | some f => (match f.elem with
                    | .message mi => (!op.isWrite || keyUtf8 f k) && Op.utf8 S fuel mi op
                    | _ => true)
       | none => true)

theorem storeElem_utf8 {U : Nat → Val → Bool} {e : Elem} {a x : Val} (h : Reflect.storeElem e a = some x)
    (ha : utf8Elem U e a = true) : utf8Elem U e x = true := by
  cases e with
  | scalar k => rw [utf8Elem_scalar_congr U k (storeElem_scalar_bits h).2]; exact ha
  | message i =>
    cases a <;> simp only [Reflect.storeElem, Option.some.injEq, reduceCtorEq] at h <;> subst h <;> exact ha

theorem utf8OK_of_elem {S : Schema} {n mi : Nat} {c : Val} (h : utf8Elem (utf8OK S n) (.message mi) c = true) :
    utf8OK S n mi c = true := by
  cases hc : c.isNone with
  | true => rw [isNone_eq_true hc]; exact utf8OK_not_msg S n mi _ (by intro s u h; cases h)
  | false => simpa only [utf8Elem, hc, Bool.false_or] using h

theorem utf8Elem_of_OK {S : Schema} {n mi : Nat} {c : Val} (h : utf8OK S n mi c = true) :
    utf8Elem (utf8OK S n) (.message mi) c = true := by
  simp only [utf8Elem, h, Bool.or_true]

/-- what a field-level outcome must satisfy to keep the invariant -/
def FWutf8 (U : Nat → Val → Bool) (f : FieldDesc) : FW → Prop
  | .panic => True
  | .put v => utf8Slot U f v = true
  | .putOne v => utf8Elem U f.elem v = true

theorem keyUtf8_store {f : FieldDesc} {kk : Kind} {k k' : Val} (hsh : f.shape = .map kk)
    (hk : keyUtf8 f k = true) (hst : Reflect.storeElem (.scalar kk) k = some k') :
    (kk != .string || utf8Valid k'.getBlob) = true := by
  simp only [keyUtf8, hsh] at hk
  rw [(storeElem_scalar_bits hst).2]; exact hk

theorem writeF_utf8 (S : Schema) (n : Nat) {fs : List FieldDesc} {f : FieldDesc} {j : Nat} {o : WOp} {v : Val}
    (hj : fs[j]? = some f) (hfld : WOp.field? o = some j)
    (hok : o.utf8 (utf8OK S n) fs = true) (hv : utf8Slot (utf8OK S n) f v = true) :
    FWutf8 (utf8OK S n) f (Reflect.writeF S f v o) := by
  cases o <;> simp only [WOp.field?, Option.some.injEq, reduceCtorEq] at hfld <;> subst hfld <;>
    simp only [WOp.utf8, hj] at hok <;> simp only [Reflect.writeF]
  case set a =>
    unfold Reflect.setF
    cases hsh : f.shape with
    | singular =>
      simp only [setArgUtf8, hsh] at hok
      cases hst : Reflect.storeElem f.elem a with
      | none => trivial
      | some x => simp only [FWutf8, utf8Slot, hsh]; exact storeElem_utf8 hst hok
    | oneof g =>
      simp only [setArgUtf8, hsh] at hok
      cases hst : Reflect.storeElem f.elem a with
      | none => trivial
      | some x => exact storeElem_utf8 hst hok
    | repeated p =>
      simp only [setArgUtf8, hsh] at hok
      cases a <;> try trivial
      rename_i nn es
      cases nn <;> first | trivial | (simpa only [FWutf8, utf8Slot, hsh] using hok)
    | map kk =>
      simp only [setArgUtf8, hsh] at hok
      cases a <;> try trivial
      rename_i nn es
      cases nn <;> first | trivial | (simpa only [FWutf8, utf8Slot, hsh] using hok)
  case clear => exact utf8Slot_zero _ f
  case «mut» =>
    unfold Reflect.mutF
    cases hsh : f.shape with
    | singular =>
      cases he : f.elem with
      | scalar k => trivial
      | message mi =>
        simp only [FWutf8, utf8Slot, hsh, he]
        simp only [utf8Slot, hsh, he] at hv
        cases hc : v.isNone with
        | true => simp only [if_true]; exact utf8Elem_of_OK (utf8OK_emptyMsg S n mi)
        | false => simpa only [Bool.false_eq_true, if_false] using hv
    | repeated p =>
      simp only [FWutf8]
      simpa only [utf8Slot, hsh, Val.elems_list] using hv
    | map kk =>
      simp only [FWutf8]
      simpa only [utf8Slot, hsh, Val.elems_map] using hv
    | oneof g =>
      cases he : f.elem with
      | scalar k => trivial
      | message mi =>
        cases v <;> simp only [FWutf8] <;> try exact (he ▸ utf8Elem_of_OK (utf8OK_emptyMsg S n mi))
        rename_i y
        cases y <;>
          first | exact hv | exact (he ▸ utf8Elem_of_OK (utf8OK_emptyMsg S n mi))
  case lset i a =>
    unfold Reflect.lsetF
    cases hsh : f.shape <;> try trivial
    cases hst : Reflect.storeElem f.elem a with
    | none => trivial
    | some x =>
      simp only []
      split
      · simp only [FWutf8, utf8Slot, hsh, Val.elems_list]
        simp only [utf8Slot, hsh] at hv
        exact all_set _ _ _ _ hv (storeElem_utf8 hst hok)
      · trivial
  case lapp a =>
    unfold Reflect.lappF
    cases hsh : f.shape <;> try trivial
    cases hst : Reflect.storeElem f.elem a with
    | none => trivial
    | some x =>
      simp only [FWutf8, utf8Slot, hsh, Val.elems_list]
      simp only [utf8Slot, hsh] at hv
      exact all_append_one _ hv (storeElem_utf8 hst hok)
  case lappm =>
    unfold Reflect.lappmF
    cases hsh : f.shape <;> try trivial
    cases he : f.elem with
    | scalar k => trivial
    | message mi =>
      simp only [FWutf8, utf8Slot, hsh, Val.elems_list, he]
      simp only [utf8Slot, hsh, he] at hv
      exact all_append_one _ hv (utf8Elem_of_OK (utf8OK_emptyMsg S n mi))
  case ltrunc m =>
    unfold Reflect.ltruncF
    cases hsh : f.shape <;> try trivial
    simp only []
    split
    · simp only [FWutf8, utf8Slot, hsh, Val.elems_list]
      simp only [utf8Slot, hsh] at hv
      exact all_take _ _ _ hv
    · trivial
  case mset k a =>
    unfold Reflect.msetF
    cases hsh : f.shape <;> try trivial
    rename_i kk
    simp only [Bool.and_eq_true] at hok
    simp only []
    cases hk : Reflect.storeElem (.scalar kk) k with
    | none => trivial
    | some k' =>
      cases hst : Reflect.storeElem f.elem a with
      | none => trivial
      | some x =>
        simp only [FWutf8, utf8Slot, hsh, Val.elems_map]
        simp only [utf8Slot, hsh] at hv
        refine all_mapPut _ _ _ _ hv ?_
        simp only [Val.key, Val.value, keyUtf8_store hsh hok.1 hk, storeElem_utf8 hst hok.2, Bool.and_self]
  case mclr k =>
    unfold Reflect.mclrF
    cases hsh : f.shape <;> try trivial
    simp only [FWutf8, utf8Slot, hsh, Val.elems_map, mapDel]
    simp only [utf8Slot, hsh] at hv
    exact all_filter _ _ hv
  case mmut k =>
    unfold Reflect.mmutF
    cases hsh : f.shape <;> try trivial
    rename_i kk
    cases he : f.elem with
    | scalar k0 => trivial
    | message mi =>
      simp only []
      cases hk : Reflect.storeElem (.scalar kk) k with
      | none => trivial
      | some k' =>
        simp only [utf8Slot, hsh, he] at hv
        simp only []
        split
        · simpa only [FWutf8, utf8Slot, hsh, he, Val.elems_map] using hv
        · simp only [FWutf8, utf8Slot, hsh, he, Val.elems_map]
          refine all_append_one _ hv ?_
          simp only [Val.key, Val.value, keyUtf8_store hsh hok hk,
            utf8Elem_of_OK (utf8OK_emptyMsg S n mi), Bool.and_self]

theorem utf8OK_set {S : Schema} {n i : Nat} {slots : List Val} {u : Bytes} {j : Nat} {f : FieldDesc} {v : Val}
    (hf : (S.msg i).fields[j]? = some f) (hu : utf8OK S (n+1) i (.msg slots u) = true)
    (hv : utf8Slot (utf8OK S n) f v = true) : utf8OK S (n+1) i (.msg (slots.set j v) u) = true :=
  utf8OK_msg_iff.2 (forall_mem_zip_set (P := fun f v => utf8Slot (utf8OK S n) f v = true) hf hv (utf8OK_msg_iff.1 hu))

theorem utf8OK_clearGroup {S : Schema} {n i : Nat} {slots : List Val} {u : Bytes} (g : Nat)
    (hu : utf8OK S (n+1) i (.msg slots u) = true) :
    utf8OK S (n+1) i (.msg (clearGroup (S.msg i).fields g slots) u) = true :=
  utf8OK_msg_iff.2 (forall_mem_zip_clearGroup (P := fun f v => utf8Slot (utf8OK S n) f v = true) _ g
    (fun f _ => utf8Slot_none _ f) _ (utf8OK_msg_iff.1 hu))

theorem applyFW_utf8 (S : Schema) (n i : Nat) (f : FieldDesc) (j : Nat) (slots : List Val) (u : Bytes) (fw : FW)
    (hf : (S.msg i).fields[j]? = some f) (hu : utf8OK S (n+1) i (.msg slots u) = true)
    (hfw : FWutf8 (utf8OK S n) f fw) :
    utf8OK S (n+1) i (applyFW (S.msg i).fields f j slots u fw).1 = true := by
  cases fw with
  | panic => exact hu
  | put v => exact utf8OK_set hf hu hfw
  | putOne v =>
    unfold applyFW
    cases hsh : f.shape with
    | oneof g =>
      refine utf8OK_set hf (utf8OK_clearGroup g hu) ?_
      simpa only [FWutf8, utf8Slot, hsh] using hfw
    | singular => exact hu
    | repeated p => exact hu
    | map kk => exact hu

theorem write_utf8 (S : Schema) (n i : Nat) (s : Val) (o : WOp) (hu : utf8OK S (n+1) i s = true)
    (hok : o.utf8 (utf8OK S n) (S.msg i).fields = true) :
    utf8OK S (n+1) i (Reflect.write S i s o).1 = true := by
  cases s with
  | msg slots u =>
    cases hfld : WOp.field? o with
    | none =>
      cases o <;> simp only [WOp.field?, reduceCtorEq] at hfld
      · exact hu
      · exact utf8OK_emptyMsg S (n+1) i
    | some j =>
      rw [write_field S i slots u o j hfld]
      cases hf : (S.msg i).fields[j]? with
      | none => exact hu
      | some f =>
        simp only []
        exact applyFW_utf8 S n i f j slots u _ hf hu
          (writeF_utf8 S n hf hfld hok (utf8Slot_getD hu hf))
  | _ => exact hu

theorem utf8OK_reattach {S : Schema} {n i : Nat} {s : Val} {r : Val × Out} {k : Val → Val}
    (hs : utf8OK S n i s = true) (hk : utf8OK S n i (k r.1) = true) :
    utf8OK S n i (Reflect.reattach s r k).1 = true := by
  unfold Reflect.reattach
  cases r.2 <;> first | exact hs | exact hk

theorem stepW_utf8 (S : Schema) : ∀ (op : Op) (n i : Nat) (s : Val), utf8OK S n i s = true →
    Op.utf8 S n i op = true → op.isWrite = true → utf8OK S n i (Reflect.stepW S i s op).1 = true
  | _, 0, _, _, _, _, _ => rfl
  | .r _, _+1, _, _, _, _, hw => by simp [Op.isWrite] at hw
  | .w o, n+1, i, s, hu, hok, _ => by
    simp only [Op.utf8] at hok
    exact write_utf8 S n i s o hu hok
  | .in j op, n+1, i, s, hu, hok, hw => by
    cases s with
    | msg slots u =>
      cases hf : (S.msg i).fields[j]? with
      | none => simp only [Reflect.stepW, hf]; exact hu
      | some f =>
        have hv := utf8Slot_getD hu hf
        cases he : f.elem with
        | scalar k0 => simp only [Reflect.stepW, hf, he]; exact hu
        | message mi =>
          simp only [Reflect.stepW, hf, he]
          have hok' : Op.utf8 S n mi op = true := by simpa only [Op.utf8, hf, he] using hok
          have hw' : op.isWrite = true := hw
          cases hsh : f.shape with
          | singular =>
            simp only []
            simp only [utf8Slot, hsh, he] at hv
            have hc0 : utf8OK S n mi (if (slots.getD j Val.none).isNone = true then emptyMsg S mi
                else slots.getD j Val.none) = true := by
              split
              · exact utf8OK_emptyMsg S n mi
              · exact utf8OK_of_elem hv
            have ih := stepW_utf8 S op n mi _ hc0 hok' hw'
            refine utf8OK_reattach hu (utf8OK_set hf hu ?_)
            simp only [utf8Slot, hsh, he]
            exact utf8Elem_of_OK ih
          | oneof g =>
            simp only []
            cases hc : slots.getD j Val.none with
            | one c =>
              simp only []
              rw [hc] at hv
              simp only [utf8Slot, hsh, he] at hv
              have ih := stepW_utf8 S op n mi c (utf8OK_of_elem hv) hok' hw'
              refine utf8OK_reattach hu (utf8OK_set hf hu ?_)
              simp only [utf8Slot, hsh, he]
              exact utf8Elem_of_OK ih
            | oneNil => exact hu
            | _ =>
              simp only []
              have ih := stepW_utf8 S op n mi (emptyMsg S mi) (utf8OK_emptyMsg S n mi) hok' hw'
              refine utf8OK_reattach hu (utf8OK_set hf (utf8OK_clearGroup g hu) ?_)
              simp only [utf8Slot, hsh, he]
              exact utf8Elem_of_OK ih
          | repeated p => exact hu
          | map kk => exact hu
    | _ => exact hu
  | .at j k op, n+1, i, s, hu, hok, hw => by
    cases s with
    | msg slots u =>
      cases hf : (S.msg i).fields[j]? with
      | none => simp only [Reflect.stepW, hf]; exact hu
      | some f =>
        have hv := utf8Slot_getD hu hf
        cases he : f.elem with
        | scalar k0 => simp only [Reflect.stepW, hf, he]; exact hu
        | message mi =>
          simp only [Reflect.stepW, hf, he]
          have hok' : Op.utf8 S n mi op = true := by simpa only [Op.utf8, hf, he] using hok
          have hw' : op.isWrite = true := hw
          cases hsh : f.shape with
          | repeated p =>
            simp only []
            simp only [utf8Slot, hsh, he] at hv
            cases hk : (slots.getD j Val.none).elems[k]? with
            | none => exact hu
            | some c =>
              simp only []
              have hcu := List.all_eq_true.1 hv c (List.mem_of_getElem? hk)
              have ih := stepW_utf8 S op n mi c (utf8OK_of_elem hcu) hok' hw'
              refine utf8OK_reattach hu (utf8OK_set hf hu ?_)
              simp only [utf8Slot, hsh, he, Val.elems_list]
              exact all_set _ _ _ _ hv (utf8Elem_of_OK ih)
          | singular => exact hu
          | oneof g => exact hu
          | map kk => exact hu
    | _ => exact hu
  | .mv j k op, n+1, i, s, hu, hok, hw => by
    cases s with
    | msg slots u =>
      cases hf : (S.msg i).fields[j]? with
      | none => simp only [Reflect.stepW, hf]; exact hu
      | some f =>
        have hv := utf8Slot_getD hu hf
        cases he : f.elem with
        | scalar k0 => simp only [Reflect.stepW, hf, he]; exact hu
        | message mi =>
          simp only [Reflect.stepW, hf, he]
          have hw' : op.isWrite = true := hw
          have hok2 : keyUtf8 f k = true ∧ Op.utf8 S n mi op = true := by
            simpa only [Op.utf8, hf, he, hw', Bool.not_true, Bool.false_or, Bool.and_eq_true] using hok
          obtain ⟨hkey, hok'⟩ := hok2
          cases hsh : f.shape with
          | map kk =>
            simp only []
            simp only [utf8Slot, hsh, he] at hv
            cases hk : Reflect.storeElem (.scalar kk) k with
            | none => exact hu
            | some k' =>
              simp only []
              have hc0 : utf8OK S n mi (valueOr (findEntry kk (slots.getD j Val.none).elems k') (emptyMsg S mi))
                  = true := by
                cases hfe : findEntry kk (slots.getD j Val.none).elems k' with
                | none => exact utf8OK_emptyMsg S n mi
                | some en =>
                  have := List.all_eq_true.1 hv en (List.mem_of_find?_eq_some hfe)
                  simp only [Bool.and_eq_true] at this
                  exact utf8OK_of_elem this.2
              have ih := stepW_utf8 S op n mi _ hc0 hok' hw'
              refine utf8OK_reattach hu (utf8OK_set hf hu ?_)
              simp only [utf8Slot, hsh, he, Val.elems_map]
              refine all_mapPut _ _ _ _ hv ?_
              simp only [Val.key, Val.value, keyUtf8_store hsh hkey hk, utf8Elem_of_OK ih, Bool.and_self]
          | singular => exact hu
          | oneof g => exact hu
          | repeated p => exact hu
    | _ => exact hu

theorem step_utf8 (S : Schema) (n i : Nat) (s : Val) (op : Op) (hu : utf8OK S n i s = true)
    (hok : Op.utf8 S n i op = true) : utf8OK S n i (Reflect.step S i s op).1 = true := by
  unfold Reflect.step
  cases hw : op.isWrite with
  | true => simp only [if_true]; exact stepW_utf8 S op n i s hu hok hw
  | false => simpa only [Bool.false_eq_true, if_false] using hu

/-- the simulation relation of C08 with its two invariants -/
def ReflRel (S : Schema) (n i : Nat) (s t : Val) : Prop :=
  msgOK S false n i s = true ∧ utf8OK S n i s = true ∧ abs S n i s = t

theorem ReflRel_step (S : Schema) (hS : S.WF = true) (n i : Nat) (s t : Val) (op : Op)
    (h : ReflRel S n i s t) (hok : Op.ok S n i op = true ∧ Op.utf8 S n i op = true) :
    (Reflect.step S i s op).2 = (SpecReflect.step S i t (Op.abs S n i op)).2 ∧
    ReflRel S n i (Reflect.step S i s op).1 (SpecReflect.step S i t (Op.abs S n i op)).1 := by
  obtain ⟨hs, hu, rfl⟩ := h
  obtain ⟨h1, h2, h3⟩ := step_refines S n i s op hs hok.1
  exact ⟨h1 (fun _ => ⟨hS, hu⟩), h3, step_utf8 S n i s op hu hok.2, h2⟩

end Pulsar
