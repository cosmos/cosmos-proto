/-
  The type / dependency tables (Pulsar.GenTables). A pass of `decl` and a pass of `dep` add rows in the same way,
  and the five `dep` passes of `typeTables` are one pass over `allDeps`: every fact about the tables is a fact
  about one `decl` pass followed by one `dep` pass.
-/
import Pulsar.GenTables
namespace Pulsar.Gen

theorem TypeTab.decl_goTypes (t : TypeTab) (n : String) :
    (t.decl n).goTypes = if n ∈ t.goTypes then t.goTypes else t.goTypes ++ [n] := by
  unfold TypeTab.decl
  split <;> rfl

theorem TypeTab.decl_deps (t : TypeTab) (n : String) : (t.decl n).deps = t.deps := by
  unfold TypeTab.decl
  split <;> rfl

/-- `f`: any step that adds rows as `decl` does (`decl` itself, `dep`) -/
theorem foldl_rows (f : TypeTab → String → TypeTab) (hf : ∀ t n, (f t n).goTypes = (t.decl n).goTypes)
    (ns : List String) : ∀ (t : TypeTab), t.goTypes.Nodup →
    (∃ ext, (ns.foldl f t).goTypes = t.goTypes ++ ext) ∧ (ns.foldl f t).goTypes.Nodup ∧
    (∀ x, x ∈ (ns.foldl f t).goTypes ↔ x ∈ t.goTypes ∨ x ∈ ns) := by
  induction ns with
  | nil => intro t h; exact ⟨⟨[], by simp⟩, h, by simp⟩
  | cons n ns ih =>
    intro t h
    have e : (f t n).goTypes = if n ∈ t.goTypes then t.goTypes else t.goTypes ++ [n] := by
      rw [hf, TypeTab.decl_goTypes]
    have hn : (f t n).goTypes.Nodup := by
      rw [e]
      split
      · exact h
      · rename_i hn
        refine List.nodup_append.2 ⟨h, by simp, fun a ha b hb hab => hn ?_⟩
        rw [List.mem_singleton.1 hb] at hab
        exact hab ▸ ha
    obtain ⟨⟨ext, he⟩, hnd, hmem⟩ := ih (f t n) hn
    refine ⟨?_, hnd, fun x => ?_⟩
    · rw [List.foldl_cons, he, e]
      split
      · exact ⟨ext, rfl⟩
      · exact ⟨[n] ++ ext, by simp⟩
    · rw [List.foldl_cons, hmem, e]
      split
      · rename_i hin
        simp only [List.mem_cons]
        exact ⟨fun h => h.elim Or.inl (fun h => Or.inr (Or.inr h)),
          fun h => h.elim Or.inl (fun h => h.elim (fun e => Or.inl (e ▸ hin)) Or.inr)⟩
      · simp only [List.mem_append, List.mem_cons, List.not_mem_nil, or_false, or_assoc]

theorem foldl_decl_deps (ns : List String) (t : TypeTab) : (ns.foldl TypeTab.decl t).deps = t.deps := by
  induction ns generalizing t with
  | nil => rfl
  | cons n ns ih => rw [List.foldl_cons, ih, TypeTab.decl_deps]

theorem foldl_decl_distinct (ns : List String) : ∀ (t : TypeTab), (t.goTypes ++ ns).Nodup →
    (ns.foldl TypeTab.decl t).goTypes = t.goTypes ++ ns := by
  induction ns with
  | nil => intro t _; simp
  | cons n ns ih =>
    intro t h
    have hn : n ∉ t.goTypes := fun hm => (List.nodup_append.1 h).2.2 n hm n (by simp) rfl
    have e : (t.decl n).goTypes = t.goTypes ++ [n] := by rw [TypeTab.decl_goTypes, if_neg hn]
    rw [List.foldl_cons, ih (t.decl n) (by rw [e]; simpa [List.append_assoc] using h), e]
    simp

theorem foldl_dep_deps_length (ns : List String) (t : TypeTab) :
    (ns.foldl TypeTab.dep t).deps.length = t.deps.length + ns.length := by
  induction ns generalizing t with
  | nil => rfl
  | cons n ns ih =>
    rw [List.foldl_cons, ih]
    simp only [TypeTab.dep, TypeTab.decl_deps, List.length_append, List.length_cons, List.length_nil]
    omega

/-- every dependency recorded so far points at the row of its type -/
def TypeTab.Good (t : TypeTab) (names : List String) : Prop :=
  t.goTypes.Nodup ∧ t.deps.map (t.goTypes[·]?) = names.map some

theorem TypeTab.dep_good (t : TypeTab) (names : List String) (name : String) (h : t.Good names) :
    (t.dep name).Good (names ++ [name]) := by
  obtain ⟨hnd, hk⟩ := h
  obtain ⟨⟨ext, hg⟩, hnd', hmem⟩ := foldl_rows TypeTab.decl (fun _ _ => rfl) [name] t hnd
  simp only [List.foldl_cons, List.foldl_nil] at hg hnd' hmem
  refine ⟨hnd', ?_⟩
  -- the entry just appended is the index of `name`
  have hlt := List.idxOf_lt_length_iff.2 ((hmem name).2 (Or.inr (by simp)))
  simp only [TypeTab.dep, TypeTab.decl_deps, List.map_append, List.map_cons, List.map_nil,
    List.getElem?_eq_getElem hlt, List.getElem_idxOf hlt, ← hk]
  congr 1
  -- an earlier entry still points at its row: rows are only appended
  refine List.map_congr_left (fun d hd => ?_)
  have : (t.goTypes[d]?).isSome = true := by
    have := List.mem_map_of_mem (f := (t.goTypes[·]?)) hd
    rw [hk] at this
    obtain ⟨x, _, hx⟩ := List.mem_map.1 this
    simp [← hx]
  rw [hg, List.getElem?_append_left (by simpa using this)]

theorem foldl_dep_good (ns : List String) : ∀ (t : TypeTab) (names : List String), t.Good names →
    (ns.foldl TypeTab.dep t).Good (names ++ ns) := by
  induction ns with
  | nil => intro t names h; simpa using h
  | cons n ns ih =>
    intro t names h
    have := ih (t.dep n) (names ++ [n]) (t.dep_good names n h)
    simpa [List.foldl_cons, List.append_assoc] using this

theorem foldl_decl_good (ns : List String) : TypeTab.Good (ns.foldl TypeTab.decl {}) [] :=
  ⟨(foldl_rows TypeTab.decl (fun _ _ => rfl) ns {} List.nodup_nil).2.1, by rw [foldl_decl_deps]; rfl⟩

theorem TypeTab.Good.getD {t : TypeTab} {names : List String} (h : t.Good names) :
    t.deps.length = names.length ∧ ∀ k (hk : k < names.length), t.goTypes[t.deps.getD k 0]? = some names[k] := by
  have hlen : t.deps.length = names.length := by simpa using congrArg List.length h.2
  refine ⟨hlen, fun k hk => ?_⟩
  have hk' : k < t.deps.length := hlen ▸ hk
  have := congrArg (·[k]?) h.2
  simp only [List.getElem?_map, List.getElem?_eq_getElem hk, List.getElem?_eq_getElem hk',
    Option.map_some, Option.some.injEq] at this
  rw [List.getD_eq_getElem?_getD, List.getElem?_eq_getElem hk']
  exact this

theorem typeTables_eq (enums msgs : List String) (fieldDeps : List (List String))
    (exts : List (String × Option String)) (methods : List (String × String)) :
    (typeTables enums msgs fieldDeps exts methods).goTypes =
      ((allDeps fieldDeps exts methods).foldl TypeTab.dep ((enums ++ msgs).foldl TypeTab.decl {})).goTypes ∧
    (typeTables enums msgs fieldDeps exts methods).deps =
      ((allDeps fieldDeps exts methods).foldl TypeTab.dep ((enums ++ msgs).foldl TypeTab.decl {})).deps := by
  simp only [typeTables, allDeps, List.foldl_append, and_self]

theorem typeTables_goTypes (enums msgs : List String) (fieldDeps : List (List String))
    (exts : List (String × Option String)) (methods : List (String × String)) :
    (∃ imported, (typeTables enums msgs fieldDeps exts methods).goTypes =
      ((enums ++ msgs).foldl TypeTab.decl {}).goTypes ++ imported) ∧
    (typeTables enums msgs fieldDeps exts methods).goTypes.Nodup ∧
    ∀ x, x ∈ (typeTables enums msgs fieldDeps exts methods).goTypes ↔
      x ∈ enums ++ msgs ∨ x ∈ allDeps fieldDeps exts methods := by
  have hdecl := foldl_rows TypeTab.decl (fun _ _ => rfl) (enums ++ msgs) {} List.nodup_nil
  have hdep := foldl_rows TypeTab.dep (fun _ _ => rfl) (allDeps fieldDeps exts methods) _ hdecl.2.1
  rw [(typeTables_eq ..).1]
  refine ⟨hdep.1, hdep.2.1, fun x => ?_⟩
  rw [hdep.2.2, hdecl.2.2]
  simp

end Pulsar.Gen
