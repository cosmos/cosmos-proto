/-
  Pulsar.Proofs.DecodeDiscard — decoding with DiscardUnknown = decoding without it, then erasing
  every unknown set (C14_discard). A simulation between the two runs: at every step the state of the
  discarding run is `E` of the state of the retaining run (`Res.Sim`).
-/
import Pulsar.Proofs.EraseOps
import Pulsar.Proofs.DecodeStep
namespace Pulsar

variable (S : Schema)

/-- the discarding child decoder `cd` simulates the retaining one `cn` -/
def ChildSim (cd cn : Nat → Val → Bytes → Res Val) : Prop :=
  ∀ i into p, Sh S i into = true → Res.Sim (E S i) (fun v => Sh S i v = true) (cd i (E S i into) p) (cn i into p)

section sim
variable {S}
variable {cd cn : Nat → Val → Bytes → Res Val}

theorem implReadMapField_sim (hc : ChildSim S cd cn) (e : Elem) (old : Val) (rest : Bytes)
    (ho : sE S e old = true) :
    Res.Sim (fun q => (eE S e q.1, q.2)) (fun q => sE S e q.1 = true)
      (implReadMapField cd S e (eE S e old) rest) (implReadMapField cn S e old rest) := by
  cases e with
  | scalar k => exact Res.Sim.refl _ (fun _ => rfl) (fun _ => rfl)
  | message i =>
    obtain ⟨ht, hst⟩ := orEmpty_erase S (.message i) ho
    have hsh : Sh S i ((Elem.message i).orEmpty S old) = true := by
      simpa [sE_message, Elem.orEmpty_isNone] using hst
    rw [implReadMapField_message, implReadMapField_message, ht, eE_of_Sh S hsh]
    exact Res.Sim.bind_same _ fun pr _ => (hc i _ pr.1 hsh).mapR fun v hv =>
      ⟨by rw [eE_of_Sh S hv], sE_of_Sh S hv⟩

theorem implEntryLoop_sim (hc : ChildSim S cd cn) (kk : Kind) (e : Elem) :
    ∀ (fuel : Nat) (rest : Bytes) (rem : Nat) (k v : Val), sE S e v = true →
      Res.Sim (fun q => (q.1, eE S e q.2)) (fun q => sE S e q.2 = true)
        (implEntryLoop cd S kk e fuel rest rem k (eE S e v)) (implEntryLoop cn S kk e fuel rest rem k v) := by
  intro fuel
  induction fuel with
  | zero => intro rest rem k v hv; exact Res.Sim.ok rfl hv
  | succ fuel ih =>
    intro rest rem k v hv
    rw [implEntryLoop_succ, implEntryLoop_succ]
    refine Res.Sim.ite (fun _ => Res.Sim.ok rfl hv) fun _ => Res.Sim.bind_same _ fun wr _ => ?_
    refine Res.Sim.ite (fun _ => ?_) fun _ => Res.Sim.ite (fun _ => ?_) fun _ => ?_
    · exact Res.Sim.bind_same _ fun kr _ => ih _ _ _ _ hv
    · exact (implReadMapField_sim hc e v wr.2 hv).bind fun vr _ hvr => ih _ _ _ _ hvr
    · exact Res.Sim.bind_same _ fun n _ => Res.Sim.ite (fun _ => Res.Sim.err _) fun _ => ih _ _ _ _ hv

theorem slotStep_sim (hc : ChildSim S cd cn) (f : FieldDesc) (wt : Nat) (cur : Val) (rest : Bytes)
    (hcur : ShS S f cur = true) :
    Res.Sim (fun q => (ES S f q.1, q.2)) (fun q => ShS S f q.1 = true)
      (slotStep S cd f wt (ES S f cur) rest) (slotStep S cn f wt cur rest) := by
  unfold slotStep
  split
  · rename_i kk hsh
    -- a well-shaped map slot is a `.map`; `ES`, `ShS` on it go through the entries
    have hES : ∀ nn es, ES S f (.map nn es) = .map nn (es.map fun en => .entry en.key (eE S f.elem en.value)) := by
      simp [ES, eraseSlot, hsh]
    have hShS : ∀ nn es, ShS S f (.map nn es) = es.all fun en => sE S f.elem en.value := by
      simp [ShS, shSlot, hsh]
    obtain ⟨nn, es, rfl⟩ : ∃ nn es, cur = .map nn es := by
      cases cur <;> first | exact ⟨_, _, rfl⟩ | simp [ShS, shSlot, hsh] at hcur
    rw [hShS] at hcur
    simp only [hES, Val.elems]
    refine Res.Sim.ite (fun _ => Res.Sim.bind_same _ fun nr _ => ?_) fun _ => Res.Sim.err _
    have := implEntryLoop_sim hc kk f.elem nr.1 (nr.2.take nr.1) nr.1 (Elem.zeroVar (.scalar kk)) f.elem.zeroVar
      (sE_zeroVar S _)
    rw [eE_zeroVar] at this
    refine this.mapR fun kv hkv => ?_
    -- an empty message replaces a missing message value, on both sides
    have hv := orEmpty_erase S f.elem hkv
    dsimp only
    rw [hv.1, ← map_mapPut (fun en => .entry en.key (eE S f.elem en.value)) kv.1 (f.elem.orEmpty S kv.2) kv.1
      (eE S f.elem (f.elem.orEmpty S kv.2)) (fun _ => rfl) rfl,
      ← hES, hShS]
    exact ⟨rfl, all_mapPut _ _ _ _ hcur hv.2⟩
  · rename_i hsh
    obtain ⟨ht, hst⟩ := target_erase hsh hcur
    rw [ht]
    refine Res.Sim.ite (fun _ => (implReadMapField_sim hc f.elem _ rest hst).mapR fun vr hvr => ?_) fun _ => ?_
    · exact ⟨congrArg (·, vr.2) (put_erase hsh hcur hvr).1, (put_erase hsh hcur hvr).2⟩
    · split
      · -- a packed run holds scalars only: erasing changes nothing
        rename_i pk k hrep hel
        have hES : ∀ nn es, ES S f (.list nn es) = .list nn es := by
          intro nn es; simp only [ES, eraseSlot, hrep, hel]; exact congrArg _ (List.map_id'' (fun _ => rfl) es)
        have hShS : ∀ nn es, ShS S f (.list nn es) = true := by simp [ShS, shSlot, hrep, hel, shElem]
        obtain ⟨nn, es, rfl⟩ : ∃ nn es, cur = .list nn es := by
          cases cur <;> first | exact ⟨_, _, rfl⟩ | simp [ShS, shSlot, hrep] at hcur
        rw [hES]
        refine Res.Sim.ite (fun _ => Res.Sim.bind_same _ fun nr _ => ?_) fun _ => Res.Sim.err _
        refine (Res.Sim.refl (g := id) (P := fun _ => True) _ (fun _ => rfl) (fun _ => trivial)).mapR fun vr _ => ?_
        dsimp only
        rw [hES, hShS]
        exact ⟨rfl, rfl⟩
      · exact Res.Sim.err _

theorem implKnownField_sim (hc : ChildSim S cd cn) (i j : Nat) (f : FieldDesc) (wt : Nat) (slots : List Val)
    (u : Bytes) (rest : Bytes) (hf : (S.msg i).fields[j]? = some f) (hm : Sh S i (Val.msg slots u) = true) :
    Res.Sim (fun q => (E S i q.1, q.2)) (fun q => Sh S i q.1 = true)
      (implKnownField S (S.msg i).fields cd j f wt (E S i (Val.msg slots u)) rest)
      (implKnownField S (S.msg i).fields cn j f wt (Val.msg slots u) rest) := by
  rw [implKnownField_eq, implKnownField_eq, E_slot S slots u hf]
  exact (slotStep_sim hc f wt _ rest (ShS_slot S hf hm)).mapR fun vr hvr =>
    ⟨congrArg (·, vr.2) (storeSlot_erase hf hm hvr).1, (storeSlot_erase hf hm hvr).2⟩

theorem implRecord_sim (hc : ChildSim S cd cn) (i : Nat) (slots : List Val) (u : Bytes) (rest : Bytes)
    (hm : Sh S i (Val.msg slots u) = true) :
    Res.Sim (fun q => (E S i q.1, q.2)) (fun q => Sh S i q.1 = true)
      (implRecord S i { discard := true } cd (E S i (Val.msg slots u)) rest)
      (implRecord S i { discard := false } cn (Val.msg slots u) rest) := by
  unfold implRecord
  refine Res.Sim.bind_same _ fun wr _ => Res.Sim.ite (fun _ => Res.Sim.err _) fun _ =>
    Res.Sim.ite (fun _ => Res.Sim.err _) fun _ => ?_
  cases hfind : findField (S.msg i).fields (wr.1 / 8 % 4294967296) with
  | some jf => exact implKnownField_sim hc i jf.1 jf.2 _ slots u _ (findField_getElem? hfind) hm
  | none =>
    refine Res.Sim.bind_same _ fun n _ => Res.Sim.ite (fun _ => Res.Sim.err _) fun _ => Res.Sim.ok ?_ ?_
    · exact congrArg (·, rest.drop n) (E_unknown S slots u _).symm
    · exact Sh_unknown S _ hm

theorem implUnmarshalLoop_sim (hc : ChildSim S cd cn) (i : Nat) :
    ∀ (fuel : Nat) (slots : List Val) (u : Bytes) (rest : Bytes), Sh S i (Val.msg slots u) = true →
      Res.Sim (E S i) (fun v => Sh S i v = true)
        (implUnmarshalLoop S i { discard := true } cd fuel (E S i (Val.msg slots u)) rest)
        (implUnmarshalLoop S i { discard := false } cn fuel (Val.msg slots u) rest) := by
  intro fuel
  induction fuel with
  | zero => intro slots u rest hm; exact Res.Sim.ok rfl hm
  | succ fuel ih =>
    intro slots u rest hm
    rw [implUnmarshalLoop_succ, implUnmarshalLoop_succ]
    refine Res.Sim.ite (fun _ => Res.Sim.ok rfl hm) fun _ => (implRecord_sim hc i slots u rest hm).bind fun mr _ hmr => ?_
    obtain ⟨s', u', hs'⟩ := Sh_is_msg hmr
    refine Res.Sim.ite (fun _ => ?_) fun _ => Res.Sim.ok rfl hmr
    rw [hs'] at hmr ⊢
    exact ih s' u' _ hmr

end sim

theorem implUnmarshalClosure_sim (S : Schema) : ∀ (fuel : Nat) (depth : Int),
    ChildSim S (implUnmarshalClosure S { discard := true } fuel depth)
      (implUnmarshalClosure S { discard := false } fuel depth) := by
  intro fuel
  induction fuel with
  | zero => intro depth i into p hsh; exact Res.Sim.ok rfl hsh
  | succ fuel ih =>
    intro depth i into p hsh
    rw [implUnmarshalClosure_succ, implUnmarshalClosure_succ]
    obtain ⟨slots, u, rfl⟩ := Sh_is_msg hsh
    rw [E_isNone S hsh]
    simp only [Val.isNone, Bool.false_eq_true, if_false]
    exact Res.Sim.ite (fun _ => Res.Sim.err _) fun _ => implUnmarshalLoop_sim (ih _) i _ slots u p hsh

end Pulsar
