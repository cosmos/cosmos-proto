/-
  Every update the draw-level rapidproto model (Pulsar/Rapidproto.lean) makes to a message is the abstract
  semantics of the protoreflect call rapidproto.go makes at that point: the field-level functions of the SPEC
  machine (`SpecReflect.*F`, Pulsar/Reflect.lean), lifted to the message by `applyFW`.
  The `…_val` forms hold of any value that passes `typecheckSingular` unchanged (a drawn scalar, or a typed
  value of a field mapper in abstract form); the others are their instances for a drawn scalar.
-/
import Pulsar.Rapidproto
namespace Pulsar.Rapidproto

/-- a generated scalar passes `typecheckSingular` unchanged -/
theorem rp_bridge_check (E : List Int) (k : Kind) (d : Draw) :
    SpecReflect.checkElem (.scalar k) (scalarVal E k d) = some (scalarVal E k d) := by
  cases k <;> simp [SpecReflect.checkElem, scalarVal, Kind.isBlob]

/-- a value of the shape of its kind, without the non-nil flag (the abstract form of a blob), passes
    `typecheckSingular` unchanged: what `MapperTyped` mapper values in abstract form satisfy -/
theorem rp_bridge_check_val {k : Kind} {v : Val} (hk : scalarOK k v = true) (hb : ∀ b, v ≠ .blob true b) :
    SpecReflect.checkElem (.scalar k) v = some v := by
  cases v with
  | bits n =>
    simp only [scalarOK, Bool.and_eq_true, Bool.not_eq_true'] at hk
    simp [SpecReflect.checkElem, hk.1]
  | blob f b =>
    simp only [scalarOK] at hk
    cases f with
    | true => exact absurd rfl (hb b)
    | false => simp [SpecReflect.checkElem, hk]
  | _ => simp [scalarOK] at hk

theorem rp_bridge_set_singular_val {f : FieldDesc} {k : Kind} (v : Val)
    (hv : SpecReflect.checkElem (.scalar k) v = some v) (hs : f.shape = .singular) (he : f.elem = .scalar k) :
    SpecReflect.setF f v = .put v := by
  simp [SpecReflect.setF, hs, he, hv]

theorem rp_bridge_set_oneof_val {f : FieldDesc} {k : Kind} {g : Nat} (v : Val)
    (hv : SpecReflect.checkElem (.scalar k) v = some v) (hs : f.shape = .oneof g) (he : f.elem = .scalar k) :
    SpecReflect.setF f v = .putOne v := by
  simp [SpecReflect.setF, hs, he, hv]

theorem rp_bridge_lapp_val {f : FieldDesc} {p : Bool} {k : Kind} (es : List Val) (v : Val)
    (hv : SpecReflect.checkElem (.scalar k) v = some v) (hs : f.shape = .repeated p) (he : f.elem = .scalar k) :
    SpecReflect.lappF f (.list false es) v = .put (.list false (es ++ [v])) := by
  simp [SpecReflect.lappF, hs, he, hv, Val.elems]

theorem rp_bridge_mset_val {f : FieldDesc} {kk vk : Kind} (es : List Val) (k v : Val)
    (hk : SpecReflect.checkElem (.scalar kk) k = some k) (hv : SpecReflect.checkElem (.scalar vk) v = some v)
    (hs : f.shape = .map kk) (he : f.elem = .scalar vk) :
    SpecReflect.msetF f (.map false es) k v =
      .put (.map false (sortEntries kk (mapPut (kbeqOf kk) es k v))) := by
  simp [SpecReflect.msetF, hs, he, hk, hv, Val.elems]

theorem rp_bridge_mmut_val (S : Schema) {f : FieldDesc} {kk : Kind} {mi : Nat} (es : List Val) (k : Val)
    (hk : SpecReflect.checkElem (.scalar kk) k = some k) (hs : f.shape = .map kk) (he : f.elem = .message mi) :
    SpecReflect.mmutF S f (.map false es) k =
      if es.any (fun en => kbeqOf kk en.key k) then .put (.map false es)
      else .put (.map false (sortEntries kk (es ++ [.entry k (emptyMsg S mi)]))) := by
  simp [SpecReflect.mmutF, hs, he, hk, Val.elems]

/-- `msg.Set(field, scalar)` on a singular field -/
theorem rp_bridge_set_singular (E : List Int) {f : FieldDesc} {k : Kind} (d : Draw)
    (hs : f.shape = .singular) (he : f.elem = .scalar k) :
    SpecReflect.setF f (scalarVal E k d) = .put (scalarVal E k d) :=
  rp_bridge_set_singular_val _ (rp_bridge_check E k d) hs he

/-- `msg.Set(field, scalar)` on a oneof member: the group's other members are dropped -/
theorem rp_bridge_set_oneof (E : List Int) {f : FieldDesc} {k : Kind} {g : Nat} (d : Draw)
    (hs : f.shape = .oneof g) (he : f.elem = .scalar k) :
    SpecReflect.setF f (scalarVal E k d) = .putOne (scalarVal E k d) :=
  rp_bridge_set_oneof_val _ (rp_bridge_check E k d) hs he

theorem rp_bridge_applyFW_put (fs : List FieldDesc) (f : FieldDesc) (j : Nat) (slots : List Val) (u : Bytes) (x : Val) :
    (applyFW fs f j slots u (.put x)).1 = .msg (slots.set j x) u := rfl

theorem rp_bridge_applyFW_putOne (fs : List FieldDesc) (f : FieldDesc) (j : Nat) (slots : List Val) (u : Bytes)
    (x : Val) {g : Nat} (hs : f.shape = .oneof g) :
    (applyFW fs f j slots u (.putOne x)).1 = .msg ((clearGroup fs g slots).set j (.one x)) u := by
  simp [applyFW, hs]

/-- `msg.Mutable(field)` on a list / map field: the stored elements -/
theorem rp_bridge_mut_list (S : Schema) {f : FieldDesc} {p : Bool} (cur : Val) (hs : f.shape = .repeated p) :
    SpecReflect.mutF S f cur = .put (.list false cur.elems) := by
  simp [SpecReflect.mutF, hs]

theorem rp_bridge_mut_map (S : Schema) {f : FieldDesc} {kk : Kind} (cur : Val) (hs : f.shape = .map kk) :
    SpecReflect.mutF S f cur = .put (.map false cur.elems) := by
  simp [SpecReflect.mutF, hs]

/-- `msg.Mutable(field)` on a singular message field: the existing message or a new empty one -/
theorem rp_bridge_mut_singular (S : Schema) {f : FieldDesc} {mi : Nat} (cur : Val)
    (hs : f.shape = .singular) (he : f.elem = .message mi) :
    SpecReflect.mutF S f cur = .put (if cur.isNone then emptyMsg S mi else cur) := by
  simp [SpecReflect.mutF, hs, he]

/-- `msg.Mutable(field)` on a oneof message member that is held / not held -/
theorem rp_bridge_mut_oneof_held (S : Schema) {f : FieldDesc} {mi g : Nat} (x : Val)
    (hs : f.shape = .oneof g) (he : f.elem = .message mi) :
    SpecReflect.mutF S f (.one x) = .put (.one x) := by
  simp [SpecReflect.mutF, hs, he]

theorem rp_bridge_mut_oneof_new (S : Schema) {f : FieldDesc} {mi g : Nat} (cur : Val)
    (hs : f.shape = .oneof g) (he : f.elem = .message mi) (hc : ∀ x, cur ≠ .one x) :
    SpecReflect.mutF S f cur = .putOne (emptyMsg S mi) := by
  cases cur <;> simp [SpecReflect.mutF, hs, he]
  exact absurd rfl (hc _)

/-- `msg.Clear(field)` on a singular message field / a oneof member -/
theorem rp_bridge_clear {f : FieldDesc} (h : f.shape = .singular ∧ (∃ mi, f.elem = .message mi) ∨ ∃ g, f.shape = .oneof g) :
    SpecReflect.clearF f = .put .none := by
  rcases h with ⟨hs, mi, he⟩ | ⟨g, hs⟩ <;> simp [SpecReflect.clearF, FieldDesc.zero, *]

/-- `list.Append(scalar)` -/
theorem rp_bridge_lapp (E : List Int) {f : FieldDesc} {p : Bool} {k : Kind} (es : List Val) (d : Draw)
    (hs : f.shape = .repeated p) (he : f.elem = .scalar k) :
    SpecReflect.lappF f (.list false es) (scalarVal E k d) = .put (.list false (es ++ [scalarVal E k d])) :=
  rp_bridge_lapp_val es _ (rp_bridge_check E k d) hs he

/-- `list.AppendMutable()` -/
theorem rp_bridge_lappm (S : Schema) {f : FieldDesc} {p : Bool} {mi : Nat} (es : List Val)
    (hs : f.shape = .repeated p) (he : f.elem = .message mi) :
    SpecReflect.lappmF S f (.list false es) = .put (.list false (es ++ [emptyMsg S mi])) := by
  simp [SpecReflect.lappmF, hs, he, Val.elems]

/-- `list.Truncate(i)` within the list (`C18_draws_total`: it always is) -/
theorem rp_bridge_ltrunc {f : FieldDesc} {p : Bool} (es : List Val) (i : Nat)
    (hs : f.shape = .repeated p) (hi : i ≤ es.length) :
    SpecReflect.ltruncF f (.list false es) i = .put (.list false (es.take i)) := by
  simp [SpecReflect.ltruncF, hs, Val.elems, hi]

/-- `m.Set(key, value)` -/
theorem rp_bridge_mset (E : List Int) {f : FieldDesc} {kk vk : Kind} (es : List Val) (dk dv : Draw)
    (hs : f.shape = .map kk) (he : f.elem = .scalar vk) :
    SpecReflect.msetF f (.map false es) (scalarVal E kk dk) (scalarVal E vk dv) =
      .put (.map false (sortEntries kk (mapPut (kbeqOf kk) es (scalarVal E kk dk) (scalarVal E vk dv)))) :=
  rp_bridge_mset_val es _ _ (rp_bridge_check E kk dk) (rp_bridge_check E vk dv) hs he

/-- `m.Clear(key)` -/
theorem rp_bridge_mclr {f : FieldDesc} {kk : Kind} (es : List Val) (k : Val) (hs : f.shape = .map kk) :
    SpecReflect.mclrF f (.map false es) k = .put (.map false (mapDel kk es k)) := by
  simp [SpecReflect.mclrF, hs, Val.elems]

/-- `m.Mutable(key)`: nothing changes when the key is present (the value returned is the stored one:
    `valueOr (findEntry …)`), otherwise a new empty message is stored at the key -/
theorem rp_bridge_mmut (S : Schema) (E : List Int) {f : FieldDesc} {kk : Kind} {mi : Nat} (es : List Val) (dk : Draw)
    (hs : f.shape = .map kk) (he : f.elem = .message mi) :
    SpecReflect.mmutF S f (.map false es) (scalarVal E kk dk) =
      if es.any (fun en => kbeqOf kk en.key (scalarVal E kk dk)) then .put (.map false es)
      else .put (.map false (sortEntries kk (es ++ [.entry (scalarVal E kk dk) (emptyMsg S mi)]))) :=
  rp_bridge_mmut_val S es _ (rp_bridge_check E kk dk) hs he

end Pulsar.Rapidproto
