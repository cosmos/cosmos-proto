/-
  Pulsar.Proofs.EncodeEmpty — the generated `proto.Size` / `proto.Marshal` on the nil receiver and on the
  empty message `&T{}`: size 0 and no bytes, for every schema and nesting budget, with no well-formedness
  hypothesis (C09; `Reset` in C19).
-/
import Pulsar.Proofs.EncodeOrder
import Pulsar.Proofs.Walk
import Pulsar.Proofs.Slots
namespace Pulsar

theorem implMarshal_none (S : Schema) (o : MOpts) (fuel i : Nat) : implMarshal S o fuel i .none = .ok [] := by
  cases fuel <;> simp [implMarshal, implMarshalClosure, walkPanics, Val.isNone, nilRangePanics]

theorem implFieldSize_zero (o : MOpts) (hd : o.det = true) (c : Nat → Val → Nat) (f : FieldDesc) :
    implFieldSize o c f f.zero = 0 := by
  unfold implFieldSize FieldDesc.zero
  cases f.shape <;> cases f.elem <;> simp [Val.isNone, Val.elems, hd, sortEntries, sortBy]
  all_goals (rename_i k; cases k <;> simp [Kind.isBlob, implPresent, Val.getBits, Val.getBlob])

theorem implSize_emptyMsg (S : Schema) (o : MOpts) (hd : o.det = true) (fuel i : Nat) :
    implSize S o (fuel+1) i (emptyMsg S i) = 0 := by
  simp only [implSize, emptyMsg, Val.isNone, Bool.false_eq_true, if_false, implSizeLvl, Val.slots,
    Val.unknown, List.length_nil, Nat.add_zero]
  rw [zip_map_self (fun f v => implFieldSize o (implSize S o fuel) f v)]
  simp [implFieldSize_zero o hd, List.map_const']

theorem implFieldBytes_zero (o : MOpts) (hd : o.det = true) (c : Nat → Val → Res Bytes) (f : FieldDesc) :
    implFieldBytes o c f f.zero = .ok [] := by
  unfold implFieldBytes FieldDesc.zero
  cases f.shape <;> cases f.elem <;> simp [Val.isNone, Val.elems, hd, sortEntries, sortBy, concatRes]
  all_goals (rename_i k; cases k <;> simp [Kind.isBlob, implPresent, Val.getBits, Val.getBlob])

theorem writeAll_empty : ∀ (l : List (Res Bytes)), (∀ x ∈ l, x = .ok []) →
    (BackBuf.mk 0 []).writeAll l = .ok ⟨0, []⟩
  | [], _ => rfl
  | c :: cs, h => by
    have hc := h c List.mem_cons_self
    subst hc
    simp only [BackBuf.writeAll, BackBuf.write, List.length_nil, Nat.le_refl, if_true, Nat.sub_zero,
      List.nil_append]
    exact writeAll_empty cs (fun x hx => h x (List.mem_cons_of_mem _ hx))

theorem implWriteSeq_zero (o : MOpts) (hd : o.det = true) (c : Nat → Val → Res Bytes) (fs : List FieldDesc) :
    ∀ x ∈ implWriteSeq o c (fs.zip (fs.map FieldDesc.zero)) [], x = .ok [] := by
  intro x hx
  rw [implWriteSeq_eq] at hx
  rcases List.mem_cons.1 hx with rfl | hx
  · rfl
  · obtain ⟨p, hp, rfl⟩ := List.mem_map.1 hx
    rw [mem_zip_map_zero ((writeOrder_perm _).mem_iff.1 hp)]
    exact implFieldBytes_zero o hd c p.1

theorem implMarshal_emptyMsg (S : Schema) (o : MOpts) (hd : o.det = true) (fuel i : Nat) :
    implMarshal S o (fuel+1) i (emptyMsg S i) = .ok [] := by
  have hcl : implMarshalClosure S o (fuel+1) i (emptyMsg S i) = .ok [] := by
    simp only [implMarshalClosure, emptyMsg, Val.isNone, Bool.false_eq_true, if_false]
    have := implSize_emptyMsg S o hd fuel i
    simp only [emptyMsg] at this
    rw [this]
    simp only [implMarshalLvl, Val.slots, Val.unknown]
    rw [writeAll_empty _ (implWriteSeq_zero o hd _ _)]
    rfl
  rw [implMarshal_eq, hcl]

end Pulsar
