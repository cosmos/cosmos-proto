/-
  Pulsar.Proofs.DecodeRefStep — the reference decoder one step at a time, the counterpart of `DecodeStep`:
  `specDecodeLoop` and `specEntryLoop`, each one large recursive `match`, are "read one record (`specStep`,
  `specEntryStep`), then the loop again", and the step is put together from the same pieces as the generated
  decoder's: the slot's new value (`specSlotStep`), then `storeSlot`; any other record is kept as unknown.
-/
import Pulsar.Proofs.DecodeRefReaders
import Pulsar.Proofs.DecodeStep
namespace Pulsar

theorem packable_iff (k : Kind) : k.packable = true ↔ k.specWireType ≠ 2 := by cases k <;> decide

/-- the wire types with which `specDecodeLoop` decodes a record of field `f`; any other sends the record to
    `asUnknown true` (an error when `strict`) -/
def FieldDesc.accepts (f : FieldDesc) (wt : Nat) : Bool :=
  match f.shape, f.elem with
  | .map _, _ => wt = 2
  | .repeated _, .scalar k => wt = (Elem.scalar k).wireType ∨ wt = 2
  | _, e => wt = e.wireType

theorem FieldDesc.accepts_ne_4 {f : FieldDesc} {wt : Nat} (h : f.accepts wt = true) : wt ≠ 4 := by
  have elem : ∀ e : Elem, 4 ≠ e.wireType := by
    intro e
    cases e with
    | scalar k => cases k <;> decide
    | message i => exact (by decide : (4 : Nat) ≠ 2)
  rintro rfl
  unfold FieldDesc.accepts at h
  split at h
  · simp at h
  · simp [elem] at h
  · simp [elem] at h

/-- a length-delimited payload decoded by `X`, and what follows it: the common shape of the message, packed and
    map branches of `specDecodeLoop` -/
def specPayload {α : Type} (X : Bytes → Res α) (r : Bytes) : Res (α × Bytes) :=
  specLenDelim r >>= fun pr => (X pr.1).mapR fun x => (x, pr.2)

/-- `Y`: any decoder that accepts the payload can take the place of `X`; `t`: any input may follow -/
theorem specPayload_eq_ok {α : Type} {X : Bytes → Res α} {r r' : Bytes} {x : α}
    (h : specPayload X r = .ok (x, r')) :
    ∃ p, p.length + r'.length < r.length ∧ X p = .ok x ∧
      ∀ {β : Type} (Y : Bytes → Res β) (y : β) (t : Bytes), Y p = .ok y → specPayload Y (r ++ t) = .ok (y, r' ++ t) := by
  obtain ⟨⟨p, r1⟩, hld, h⟩ := Res.bind_eq_ok.1 h
  obtain ⟨⟨_, happ⟩, hl⟩ := specLenDelim_prefix hld
  obtain ⟨x', hx, h⟩ := Res.mapR_eq_ok.1 h
  cases h
  refine ⟨p, hl, hx, fun Y y t hy => ?_⟩
  unfold specPayload
  rw [happ t, Res.bind_ok]
  dsimp only
  rw [hy]
  rfl

/-- one element as `specDecodeLoop` reads it; the counterpart of `implReadMapField` -/
def specReadElem (c : Nat → Val → Bytes → Res Val) (S : Schema) (e : Elem) (old : Val) (r : Bytes) : Res (Val × Bytes) :=
  match e with
  | .scalar k => specReadScalar k r
  | .message i => specPayload (c i (if old.isNone then emptyMsg S i else old)) r

/-- `v0` of `specDecodeLoop`'s map branch: `NewValue()` of the map's value type -/
def specV0 (S : Schema) (e : Elem) : Val :=
  match e with | .message mi => emptyMsg S mi | .scalar k => Elem.zeroVar (.scalar k)

/-- `specDecodeLoop` seen from the slot, for a record whose wire type the field accepts; the counterpart of
    `slotStep` -/
def specSlotStep (strict : Bool) (S : Schema) (c : Nat → Val → Bytes → Res Val) (f : FieldDesc) (wt : Nat) (cur : Val)
    (r : Bytes) : Res (Val × Bytes) :=
  match f.shape with
  | .map kk =>
    (specPayload (fun p => specEntryLoop strict c kk f.elem p.length p (Elem.zeroVar (.scalar kk)) (specV0 S f.elem))
        r).mapFst fun kv => .map true (mapPut (kbeqOf kk) cur.elems kv.1 kv.2)
  | shape =>
    if wt = f.elem.wireType then (specReadElem c S f.elem (f.target cur) r).mapFst (f.put cur)
    else match shape, f.elem with
      | .repeated _, .scalar k =>
        (specPayload (fun p => specPackedLoop k p.length p []) r).mapFst fun vs =>
          .list (packedNonNil cur vs) (cur.elems ++ vs)
      | _, _ => .err .wrongWireType

/-- `asUnknown` of `specDecodeLoop` when it does not fail; `bs` is the record with its tag, `r` what follows the tag -/
def specUnknown (o : UOpts) (m : Val) (bs : Bytes) (num wt : Nat) (r : Bytes) : Res (Val × Bytes) :=
  consumeValue (2 * r.length + 2) 10001 num wt r >>= fun r' =>
    .ok (if o.discard then m else Val.msg m.slots (m.unknown ++ bs.take (bs.length - r'.length)), r')

/-- one iteration of `specDecodeLoop` without the recursive call; the counterpart of `implRecord` -/
def specStep (strict : Bool) (S : Schema) (i : Nat) (o : UOpts) (c : Nat → Val → Bytes → Res Val)
    (m : Val) (bs : Bytes) : Res (Val × Bytes) :=
  consumeTag bs >>= fun t =>
    if t.1 > 536870911 then .err .illegalTag else
    match findField (S.msg i).fields t.1 with
    | none => specUnknown o m bs t.1 t.2.1 t.2.2
    | some jf =>
      if jf.2.accepts t.2.1 then
        (specSlotStep strict S c jf.2 t.2.1 (m.slot jf.1) t.2.2).mapFst (storeSlot (S.msg i).fields jf.2 jf.1 m)
      else if strict then .err .wrongWireType else specUnknown o m bs t.1 t.2.1 t.2.2

/-- `skipIt` of `specEntryLoop`; `mism`: a key or value record with a foreign wire type -/
def specEntrySkip (strict mism : Bool) (num wt : Nat) (r : Bytes) : Res (Unit × Bytes) :=
  if strict && mism then .err .wrongWireType
  else (consumeValue (2 * r.length + 2) 10001 num wt r).mapR fun r' => ((), r')

theorem specEntrySkip_eq_ok {s mism : Bool} {num wt : Nat} {r r' : Bytes}
    (h : specEntrySkip s mism num wt r = .ok ((), r')) :
    (s && mism) = false ∧ consumeValue (2 * r.length + 2) 10001 num wt r = .ok r' := by
  unfold specEntrySkip at h
  split at h
  · cases h
  · rename_i hm
    obtain ⟨r2, hv, h⟩ := Res.mapR_eq_ok.1 h
    cases h
    exact ⟨by simpa using hm, hv⟩

/-- one iteration of `specEntryLoop` without the recursive call -/
def specEntryStep (strict : Bool) (c : Nat → Val → Bytes → Res Val) (kk : Kind) (e : Elem)
    (kv : Val × Val) (p : Bytes) : Res ((Val × Val) × Bytes) :=
  consumeTag p >>= fun t =>
    if t.1 > 536870911 then .err .illegalTag else
    let skipIt (mism : Bool) : Res ((Val × Val) × Bytes) :=
      (specEntrySkip strict mism t.1 t.2.1 t.2.2).mapFst fun _ => kv
    if t.1 = 1 then
      if t.2.1 = kk.specWireType then (specReadScalar kk t.2.2).mapFst fun k' => (k', kv.2) else skipIt true
    else if t.1 = 2 then
      match e with
      | .scalar vk =>
        if t.2.1 = vk.specWireType then (specReadScalar vk t.2.2).mapFst fun v' => (kv.1, v') else skipIt true
      | .message i => if t.2.1 = 2 then (specPayload (c i kv.2) t.2.2).mapFst fun v' => (kv.1, v') else skipIt true
    else skipIt false

section
variable (strict : Bool) (S : Schema) (i : Nat) (o : UOpts) (c : Nat → Val → Bytes → Res Val)

theorem specDecodeLoop_nil (fuel : Nat) (m : Val) : specDecodeLoop strict S i o c fuel m [] = .ok m := by
  cases fuel <;> simp [specDecodeLoop]

theorem specEntryLoop_nil (kk : Kind) (e : Elem) (fuel : Nat) (k v : Val) :
    specEntryLoop strict c kk e fuel [] k v = .ok (k, v) := by
  cases fuel <;> simp [specEntryLoop]

theorem specDecodeLoop_succ (fuel : Nat) (m : Val) (bs : Bytes) :
    specDecodeLoop strict S i o c (fuel + 1) m bs =
      if bs = [] then .ok m else
        specStep strict S i o c m bs >>= fun x => specDecodeLoop strict S i o c fuel x.1 x.2 := by
  rw [specDecodeLoop]
  -- the tail of the loop is opaque from here on; `by_cases`/`rcases` with `rfl` leaves instead of `split`:
  -- `split` on a goal of this size is slow
  generalize specDecodeLoop strict S i o c fuel = K
  by_cases hb : bs = []
  · rw [if_pos hb, if_pos hb]
  rw [if_neg hb, if_neg hb]
  unfold specStep
  rcases consumeTag bs with ⟨⟨num, wt, r⟩⟩ | e | _
  · simp -zeta only [Res.bind_ok]
    by_cases hnum : num > 536870911
    · rw [if_pos hnum, if_pos hnum]
      rfl
    rw [if_neg hnum, if_neg hnum]
    extract_lets fs asUnknown
    have unk : ∀ known : Bool, asUnknown known =
        (if strict && known then Res.err Err.wrongWireType else specUnknown o m bs num wt r) >>=
          fun x => K x.1 x.2 := by
      intro known
      show (if (strict && known) = true then _ else _) = _
      by_cases hs : (strict && known) = true
      · rw [if_pos hs, if_pos hs]
        rfl
      · rw [if_neg hs, if_neg hs]
        unfold specUnknown
        cases consumeValue (2 * r.length + 2) 10001 num wt r <;> rfl
    -- the two kinds of leaf: a scalar read, or a length-delimited payload handed to `X`; then the slot's new value
    -- (`g`), the store (`st`), and the loop
    have scalar : ∀ (k : Kind) (g st : Val → Val),
        (match specReadScalar k r with | .ok (v, r') => K (st (g v)) r' | .err e => .err e | .panic => .panic) =
        ((specReadScalar k r).mapFst g).mapFst st >>= fun y => K y.1 y.2 := by
      intro k g st
      rcases specReadScalar k r with ⟨⟨v, r'⟩⟩ | e | _ <;> rfl
    have payload : ∀ {α : Type} (X : Bytes → Res α) (X' : Nat → Bytes → Res α) (g : α → Val) (st : Val → Val)
        (body : Nat → Bytes → Res Val),
        (∀ n (r1 : Bytes), n ≤ r1.length → X' n (r1.take n) = X (r1.take n)) →
        (∀ n (r1 : Bytes), body n r1 =
          (X' n (r1.take n)).mapR (fun x => (st (g x), r1.drop n)) >>= fun y => K y.1 y.2) →
        (match consumeVarint r with
          | .ok (n, r1) => if n > r1.length then Res.err Err.eof else body n r1
          | .err e => .err e | .panic => .panic) =
        ((specPayload X r).mapFst g).mapFst st >>= fun y => K y.1 y.2 := by
      intro α X X' g st body hX hbody
      unfold specPayload specLenDelim
      rcases consumeVarint r with ⟨⟨n, r1⟩⟩ | e | _
      · simp only [Res.bind_ok]
        by_cases hn : n > r1.length
        · rw [if_pos hn, if_pos hn]
          rfl
        · rw [if_neg hn, if_neg hn, hbody, hX n r1 (Nat.le_of_not_gt hn), Res.bind_ok]
          cases X (r1.take n) <;> rfl
      · rfl
      · rfl
    have message : ∀ (mi : Nat) (into : Val) (g st : Val → Val),
        (match consumeVarint r with
          | .ok (n, r1) =>
            if n > r1.length then Res.err Err.eof
            else match c mi into (r1.take n) with
              | .ok v => K (st (g v)) (r1.drop n)
              | .err e => .err e | .panic => .panic
          | .err e => .err e | .panic => .panic) =
        ((specPayload (c mi into) r).mapFst g).mapFst st >>= fun y => K y.1 y.2 := by
      intro mi into g st
      refine payload (c mi into) (fun _ => c mi into) g st _ (fun _ _ _ => rfl) fun n r1 => ?_
      cases c mi into (r1.take n) <;> rfl
    rcases findField fs num with _ | ⟨j, f⟩
    · simpa using unk false
    · obtain ⟨fnum, elem, shape⟩ := f
      simp only [unk, Bool.and_true, FieldDesc.accepts, specSlotStep, specReadElem, FieldDesc.target,
        Elem.wireType, Extracted.messageWireType, wireType_eq_spec]
      cases shape with
      | singular =>
        cases elem with
        | scalar k =>
          dsimp only
          by_cases hw : wt = k.specWireType
          · simp only [hw, decide_true, if_true]
            exact scalar _ _ _
          · simp only [hw, decide_false, if_false, Bool.false_eq_true]
        | message mi =>
          dsimp only
          by_cases hw : wt = 2
          · simp only [hw, decide_true, if_true]
            exact message _ _ _ _
          · simp only [hw, decide_false, if_false, Bool.false_eq_true]
      | oneof g =>
        cases elem with
        | scalar k =>
          dsimp only
          by_cases hw : wt = k.specWireType
          · simp only [hw, decide_true, if_true]
            exact scalar _ _ _
          · simp only [hw, decide_false, if_false, Bool.false_eq_true]
        | message mi =>
          dsimp only
          by_cases hw : wt = 2
          · simp only [hw, decide_true, if_true]
            -- the member's own message if it is the active one, else a fresh one: `target` says the same
            generalize m.slot j = cur
            cases cur <;> exact message _ _ _ _
          · simp only [hw, decide_false, if_false, Bool.false_eq_true]
      | repeated pk =>
        cases elem with
        | scalar k =>
          dsimp only
          by_cases hw : wt = k.specWireType
          · -- one element; the run is not packed because a packable kind never has wire type 2
            have hp : ¬ (wt = 2 ∧ k.packable = true) := fun h => (packable_iff k).1 h.2 (hw ▸ h.1)
            rw [if_neg hp, if_pos hw, if_pos (decide_eq_true (Or.inl hw)), if_pos hw]
            exact scalar _ _ _
          · by_cases h2 : wt = 2
            · have hp : wt = 2 ∧ k.packable = true := ⟨h2, (packable_iff k).2 fun e => hw (h2.trans e.symm)⟩
              rw [if_pos hp, if_pos (decide_eq_true (Or.inr h2)), if_neg hw]
              refine payload (fun p => specPackedLoop k p.length p []) (fun n p => specPackedLoop k n p []) _ _ _ ?_ ?_
              · intro n r1 hn
                rw [List.length_take, Nat.min_eq_left hn]
              · intro n r1
                cases specPackedLoop k n (r1.take n) [] <;> rfl
            · have hp : ¬ (wt = 2 ∧ k.packable = true) := fun h => h2 h.1
              have hacc : ¬ (wt = k.specWireType ∨ wt = 2) := fun h => h.elim hw h2
              rw [if_neg hp, if_neg hw,
                if_neg (show ¬ decide (wt = k.specWireType ∨ wt = 2) = true by simpa using hacc)]
        | message mi =>
          dsimp only
          by_cases hw : wt = 2
          · simp only [hw, decide_true, if_true, Val.isNone]
            exact message _ _ _ _
          · simp only [hw, decide_false, if_false, Bool.false_eq_true]
      | map kk =>
        dsimp only
        by_cases hw : wt = 2
        · simp only [hw, decide_true, if_true]
          refine payload _ (fun n p => specEntryLoop strict c kk elem n p (Elem.zeroVar (.scalar kk)) (specV0 S elem))
            _ _ _ ?_ ?_
          · intro n r1 hn
            rw [List.length_take, Nat.min_eq_left hn]
          · intro n r1
            cases elem with
            | scalar vk =>
              dsimp only [specV0]
              rcases specEntryLoop strict c kk (.scalar vk) n (r1.take n) (Elem.zeroVar (.scalar kk))
                (Elem.zeroVar (.scalar vk)) with ⟨⟨k, v⟩⟩ | e | _ <;> rfl
            | message mi =>
              dsimp only [specV0]
              rcases specEntryLoop strict c kk (.message mi) n (r1.take n) (Elem.zeroVar (.scalar kk))
                (emptyMsg S mi) with ⟨⟨k, v⟩⟩ | e | _ <;> rfl
        · simp only [hw, decide_false, if_false, Bool.false_eq_true]
  · rfl
  · rfl

theorem specEntryLoop_succ (kk : Kind) (e : Elem) (fuel : Nat) (p : Bytes) (k v : Val) :
    specEntryLoop strict c kk e (fuel + 1) p k v =
      if p = [] then .ok (k, v) else
        specEntryStep strict c kk e (k, v) p >>= fun x => specEntryLoop strict c kk e fuel x.2 x.1.1 x.1.2 := by
  rw [specEntryLoop]
  generalize specEntryLoop strict c kk e fuel = K
  by_cases hb : p = []
  · rw [if_pos hb, if_pos hb]
  rw [if_neg hb, if_neg hb]
  unfold specEntryStep
  rcases consumeTag p with ⟨⟨num, wt, r⟩⟩ | e | _
  · simp -zeta only [Res.bind_ok]
    by_cases hnum : num > 536870911
    · rw [if_pos hnum, if_pos hnum]
      rfl
    rw [if_neg hnum, if_neg hnum]
    extract_lets skipL skipR
    have hskip : ∀ mism : Bool, skipL mism = skipR mism >>= fun x => K x.2 x.1.1 x.1.2 := by
      intro mism
      show (if (strict && mism) = true then _ else _) = (specEntrySkip strict mism num wt r).mapFst _ >>= _
      unfold specEntrySkip
      by_cases hs : (strict && mism) = true
      · rw [if_pos hs, if_pos hs]
        rfl
      · rw [if_neg hs, if_neg hs]
        cases consumeValue (2 * r.length + 2) 10001 num wt r <;> rfl
    have scalar : ∀ (kd : Kind) (g : Val → Val × Val),
        (match specReadScalar kd r with | .ok (x, r') => K r' (g x).1 (g x).2 | .err e => .err e | .panic => .panic) =
        (specReadScalar kd r).mapFst g >>= fun y => K y.2 y.1.1 y.1.2 := by
      intro kd g
      rcases specReadScalar kd r with ⟨⟨x, r'⟩⟩ | e | _ <;> rfl
    simp only [hskip]
    by_cases h1 : num = 1
    · rw [if_pos h1, if_pos h1]
      by_cases hw : wt = kk.specWireType
      · rw [if_pos hw, if_pos hw]
        exact scalar kk fun k' => (k', v)
      · rw [if_neg hw, if_neg hw]
    rw [if_neg h1, if_neg h1]
    by_cases h2 : num = 2
    · rw [if_pos h2, if_pos h2]
      cases e with
      | scalar vk =>
        dsimp only
        by_cases hw : wt = vk.specWireType
        · rw [if_pos hw, if_pos hw]
          exact scalar vk fun v' => (k, v')
        · rw [if_neg hw, if_neg hw]
      | message mi =>
        dsimp only
        by_cases hw : wt = 2
        · rw [if_pos hw, if_pos hw]
          unfold specPayload specLenDelim
          rcases consumeVarint r with ⟨⟨n, r1⟩⟩ | e | _
          · simp only [Res.bind_ok]
            by_cases hn : n > r1.length
            · rw [if_pos hn, if_pos hn]
              rfl
            · rw [if_neg hn, if_neg hn, Res.bind_ok]
              cases c mi v (r1.take n) <;> rfl
          · rfl
          · rfl
        · rw [if_neg hw, if_neg hw]
    · rw [if_neg h2, if_neg h2]
  · rfl
  · rfl

end
end Pulsar
