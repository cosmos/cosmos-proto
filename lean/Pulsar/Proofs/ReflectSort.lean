/-
  The map primitives of the reflection machines (`mapPut`, `mapDel`, `findEntry`) commute with sorting the entries
  by key, on distinct well-typed keys (`DistinctK`, `KeysOK`).
-/
import Pulsar.Reflect
import Pulsar.Proofs.EncodeKeyOrder
namespace Pulsar

theorem keyLt_congr_left (k : Kind) (a b c : Val) (h : kbeqOf k a b = true)
    (ha : scalarOK k a = true) (hb : scalarOK k b = true) : keyLt k a c = keyLt k b c := by
  by_cases hk : k.isBlob = true
  · obtain ⟨_, x, rfl⟩ := scalarOK_blob ha hk
    obtain ⟨_, y, rfl⟩ := scalarOK_blob hb hk
    have : x = y := by simpa [kbeqOf, hk, Val.getBlob] using h
    subst this
    cases k <;> simp [Kind.isBlob] at hk <;> simp [keyLt, Val.getBlob]
  · have hk' : k.isBlob = false := by simpa using hk
    obtain ⟨x, rfl, _⟩ := scalarOK_bits ha hk'
    obtain ⟨y, rfl, _⟩ := scalarOK_bits hb hk'
    have : x = y := by simpa [kbeqOf, hk', Val.getBits] using h
    subst this; rfl

/-- pairwise distinct keys, in the orientation of `distinctKeys` -/
def DistinctK (kk : Kind) (l : List Val) : Prop := l.Pairwise (fun a b => kbeqOf kk b.key a.key = false)

def KeysOK (kk : Kind) (l : List Val) : Prop := ∀ e ∈ l, scalarOK kk e.key = true

theorem distinctKeys_iff_DistinctK (kk : Kind) (l : List Val) : distinctKeys kk l = true ↔ DistinctK kk l := by
  rw [distinctKeys_iff]
  constructor <;> exact fun h => h.imp (fun h => by rw [kbeqOf_comm]; exact h)

theorem keysOK_sort {kk : Kind} {L : List Val} (hk : KeysOK kk L) : KeysOK kk (sortEntries kk L) :=
  fun e he => hk e ((sortEntries_perm kk L).mem_iff.1 he)

theorem sortEntries_idem {kk : Kind} {L : List Val} (hd : DistinctK kk L) (hk : KeysOK kk L) :
    sortEntries kk (sortEntries kk L) = sortEntries kk L :=
  (sortEntries_perm_eq kk (sortEntries_perm kk L).symm hk ((distinctKeys_iff_DistinctK kk L).2 hd)).symm

theorem distinct_eq_of_kbeq {kk : Kind} {D : List Val} (hd : distinctKeys kk D = true) {a b : Val} (ha : a ∈ D)
    (hb : b ∈ D) (hab : kbeqOf kk a.key b.key = true) : a = b := by
  rw [distinctKeys_iff] at hd
  induction D with
  | nil => cases ha
  | cons d ds ih =>
    rw [List.pairwise_cons] at hd
    rcases List.mem_cons.1 ha with ea | ha' <;> rcases List.mem_cons.1 hb with eb | hb'
    · rw [ea, eb]
    · subst ea; rw [hd.1 b hb'] at hab; cases hab
    · subst eb; rw [kbeqOf_comm, hd.1 a ha'] at hab; cases hab
    · exact ih hd.2 ha' hb'

theorem find?_unique {α : Type} {p : α → Bool} : ∀ {L : List α} {a : α}, a ∈ L → p a = true →
    (∀ b ∈ L, p b = true → b = a) → L.find? p = some a
  | [], _, h, _, _ => by cases h
  | d :: ds, a, ha, hpa, hu => by
    rw [List.find?_cons]
    cases hd : p d
    · rcases List.mem_cons.1 ha with rfl | ha
      · rw [hd] at hpa; cases hpa
      · exact find?_unique ha hpa (fun b hb => hu b (List.mem_cons_of_mem _ hb))
    · simp [hu d (List.mem_cons_self) hd]

theorem findEntry_perm {kk : Kind} {L M : List Val} (k : Val) (hp : L.Perm M) (hd : distinctKeys kk L = true) :
    findEntry kk L k = findEntry kk M k := by
  unfold findEntry
  cases h : L.find? (fun en => kbeqOf kk en.key k) with
  | none =>
    symm; rw [List.find?_eq_none] at *
    exact fun x hx => h x (hp.mem_iff.2 hx)
  | some a =>
    symm
    have ha := List.mem_of_find?_eq_some h
    have hpa : kbeqOf kk a.key k = true := List.find?_some (p := fun en : Val => kbeqOf kk en.key k) h
    refine find?_unique (hp.mem_iff.1 ha) hpa (fun b hb hpb => ?_)
    refine distinct_eq_of_kbeq hd (hp.mem_iff.2 hb) ha ?_
    rw [kbeqOf_comm kk a.key k] at hpa
    exact kbeqOf_trans kk _ _ _ hpb hpa

theorem mapPut_perm {kk : Kind} {L M : List Val} (k x : Val) (hp : L.Perm M) :
    (mapPut (kbeqOf kk) L k x).Perm (mapPut (kbeqOf kk) M k x) := by
  unfold mapPut
  rw [hp.any_eq]
  split
  · exact hp.map _
  · exact hp.append_right _

theorem keysOK_mapPut {kk : Kind} {L : List Val} (k x : Val) (hk : ∀ e ∈ L, scalarOK kk e.key = true)
    (hkk : scalarOK kk k = true) : ∀ e ∈ mapPut (kbeqOf kk) L k x, scalarOK kk e.key = true := by
  unfold mapPut
  split
  · intro e he
    obtain ⟨a, ha, rfl⟩ := List.mem_map.1 he
    split
    · exact hkk
    · exact hk a ha
  · intro e he
    rcases List.mem_append.1 he with he | he
    · exact hk e he
    · simp at he; subst he; exact hkk

theorem sort_mapPut_sort {kk : Kind} {L : List Val} (k x : Val) (hd : distinctKeys kk L = true)
    (hk : ∀ e ∈ L, scalarOK kk e.key = true) (hkk : scalarOK kk k = true) :
    sortEntries kk (mapPut (kbeqOf kk) (sortEntries kk L) k x) = sortEntries kk (mapPut (kbeqOf kk) L k x) :=
  (sortEntries_perm_eq kk (mapPut_perm k x (sortEntries_perm kk L)).symm (keysOK_mapPut k x hk hkk)
    (distinctKeys_mapPut k x hd)).symm

theorem distinctKeys_mapDel {kk : Kind} {L : List Val} (k : Val) (hd : distinctKeys kk L = true) :
    distinctKeys kk (mapDel kk L k) = true := by
  rw [distinctKeys_iff] at *
  exact List.Pairwise.filter _ hd

/-- deleting from the sorted list leaves a sorted list: it is the sorted form of the rest -/
theorem sort_mapDel {kk : Kind} {L : List Val} (k : Val) (hd : distinctKeys kk L = true)
    (hk : ∀ e ∈ L, scalarOK kk e.key = true) :
    sortEntries kk (mapDel kk L k) = mapDel kk (sortEntries kk L) k := by
  unfold mapDel
  rw [← sortEntries_of_sorted kk ((sortEntries kk L).filter _) ((sortEntries_sorted kk L hk hd).filter _)]
  exact sortEntries_perm_eq kk ((sortEntries_perm kk L).filter _).symm (fun e he => hk e (List.mem_filter.1 he).1)
    (distinctKeys_mapDel k hd)

theorem sort_append_sort {kk : Kind} {L : List Val} (e : Val) (hd : distinctKeys kk L = true)
    (hk : ∀ e ∈ L, scalarOK kk e.key = true) (hke : scalarOK kk e.key = true)
    (hnew : L.any (fun en => kbeqOf kk en.key e.key) = false) :
    sortEntries kk (sortEntries kk L ++ [e]) = sortEntries kk (L ++ [e]) := by
  refine (sortEntries_perm_eq kk ((sortEntries_perm kk L).append_right _).symm ?_ (distinctKeys_append_new e hd hnew)).symm
  intro a ha
  rcases List.mem_append.1 ha with ha | ha
  · exact hk a ha
  · simp at ha; subst ha; exact hke

end Pulsar
