/-
  Reasoning principles for the draw-level model of rapidproto (Pulsar/Rapidproto.lean): `Post p r Q` (every
  success of the replay `r` whose consumed draws satisfy `p` has a result satisfying `Q`) and `Fine o E r ds`
  (how `r` consumes the draws `ds`), each with its rules for `bind` / `map` / `draw`.
-/
import Pulsar.Rapidproto
import Pulsar.Proofs.Slots
namespace Pulsar.Rapidproto

/-- the assumption on the consumed draws under which a `Post` speaks (`p := fun _ => true`: none, a statement
    about all draw sequences) -/
def InRP (p : Ev → Bool) (tr : List Ev) : Prop := ∀ e ∈ tr, p e = true

theorem InRP.left {p : Ev → Bool} {a b : List Ev} (h : InRP p (a ++ b)) : InRP p a :=
  fun e he => h e (List.mem_append_left _ he)
theorem InRP.right {p : Ev → Bool} {a b : List Ev} (h : InRP p (a ++ b)) : InRP p b :=
  fun e he => h e (List.mem_append_right _ he)
theorem InRP.nil {p : Ev → Bool} : InRP p [] := fun _ h => by cases h
theorem InRP.all (tr : List Ev) : InRP (fun _ => true) tr := fun _ _ => rfl

abbrev InR (tr : List Ev) : Prop := InRP Ev.inRange tr

theorem InR.right {a b : List Ev} (h : InR (a ++ b)) : InR b := InRP.right h
theorem InR.nil : InR [] := InRP.nil

theorem R.bind_eq_ok {α β} {r : R α} {f : α → List Draw → R β} {b : β} {rest : List Draw} {tr : List Ev}
    (h : r.bind f = .ok b rest tr) :
    ∃ a rest1 tr1 tr2, r = .ok a rest1 tr1 ∧ f a rest1 = .ok b rest tr2 ∧ tr = tr1 ++ tr2 := by
  cases r with
  | stuck q w => cases h
  | ok a rest1 tr1 =>
    simp only [R.bind] at h
    cases hf : f a rest1 with
    | stuck q w => rw [hf] at h; cases h
    | ok b' rest2 tr2 =>
      rw [hf] at h
      cases h
      exact ⟨a, rest1, tr1, tr2, rfl, hf, rfl⟩

theorem R.map_map {α β γ} (r : R α) (g : α → β) (h : β → γ) : (r.map g).map h = r.map (fun a => h (g a)) := by
  cases r <;> rfl

theorem R.bind_map {α β γ} (r : R α) (f : α → List Draw → R β) (h : β → γ) :
    (r.bind f).map h = r.bind (fun a rest => (f a rest).map h) := by
  cases r with
  | stuck q w => rfl
  | ok a rest tr =>
    simp only [R.bind]
    cases f a rest <;> rfl

/-- If the replay `r` succeeds and every draw it consumed satisfies `p`, its result satisfies `Q`. Nothing is said of
    a `stuck`, nor of the draws that remain. A `Post` is used by applying it: `h a rest tr hrun hin`. -/
def Post (p : Ev → Bool) {α} (r : R α) (Q : α → Prop) : Prop :=
  ∀ a rest tr, r = .ok a rest tr → InRP p tr → Q a

section
variable {p : Ev → Bool} {α β : Type}

theorem Post.bind {r : R α} {f : α → List Draw → R β} {Q1 : α → Prop} {Q : β → Prop}
    (h1 : Post p r Q1) (h2 : ∀ a rest, Q1 a → Post p (f a rest) Q) : Post p (r.bind f) Q := by
  intro b rest' tr'' h hin
  obtain ⟨a, rest, tr, tr', rfl, hf, rfl⟩ := R.bind_eq_ok h
  exact h2 a rest (h1 a rest tr rfl hin.left) b rest' tr' hf hin.right

theorem Post.map {r : R α} {g : α → β} {Q : β → Prop} (h : Post p r (fun a => Q (g a))) :
    Post p (r.map g) Q := by
  intro b rest tr hb hin
  cases r with
  | stuck q w => cases hb
  | ok a rest' tr' =>
    simp only [R.map, R.ok.injEq] at hb
    obtain ⟨rfl, rfl, rfl⟩ := hb
    exact h a rest' tr' rfl hin

theorem Post.ok {a : α} {ds : List Draw} {tr : List Ev} {Q : α → Prop} (h : Q a) : Post p (R.ok a ds tr) Q := by
  intro a' rest tr' e _
  cases e
  exact h

theorem Post.stuck {q : Nat} {w : Why} {Q : α → Prop} : Post p (R.stuck q w : R α) Q := by
  intro a rest tr e
  cases e

theorem Post.mono {r : R α} {Q Q' : α → Prop} (h : Post p r Q) (hq : ∀ a, Q a → Q' a) : Post p r Q' :=
  fun a rest tr e hin => hq a (h a rest tr e hin)

theorem Post.and {r : R α} {Q Q' : α → Prop} (h : Post p r Q) (h' : Post p r Q') :
    Post p r (fun a => Q a ∧ Q' a) := fun a rest tr e hin => ⟨h a rest tr e hin, h' a rest tr e hin⟩

theorem Post.any (r : R α) : Post p r (fun _ => True) := fun _ _ _ _ _ => trivial

theorem Post.imp {r : R α} {P : Prop} {Q : α → Prop} (h : P → Post p r Q) : Post p r (fun a => P → Q a) :=
  fun a rest tr e hin hP => h hP a rest tr e hin

theorem Post.of_all {r : R α} {Q : α → Prop} (h : Post (fun _ => true) r Q) : Post p r Q :=
  fun a rest tr e _ => h a rest tr e (InRP.all tr)

theorem Post.draw (g : Gen) (ds : List Draw) : Post p (draw g ds) (fun d => p ⟨g, d⟩ = true) := by
  intro d rest tr h hin
  cases ds with
  | nil => cases h
  | cons d' ds =>
    simp only [Rapidproto.draw] at h
    split at h
    · simp only [R.ok.injEq] at h
      obtain ⟨rfl, rfl, rfl⟩ := h
      exact hin _ (List.mem_singleton.2 rfl)
    · cases h

theorem Post.genScalar {o : GenOpts} {E : List Int} {k : Kind} {Q : Val → Prop} (ds : List Draw)
    (hm : ∀ w, o.mapper k = some w → Q w)
    (hd : o.mapper k = none → ∀ d, p ⟨scalarGen E k, d⟩ = true → Q (scalarVal E k d)) :
    Post p (genScalar o E k ds) Q := by
  unfold Rapidproto.genScalar
  split
  · exact Post.ok (hm _ ‹_›)
  · exact ((Post.draw _ ds).mono (hd ‹_›)).map
end

/-- the two reasons `setFields` can be `stuck` for (`rp_fine_setFields`); both lie with the draws, unlike `fuel` and
    `truncate` -/
def Benign (w : Why) : Prop := w = .wrongType ∨ w = .missing

/-- a success consumed a prefix of `ds` (the trace, in order) by draws the options allow, a `stuck` has a reason
    in `W` and a position inside `ds` -/
def FineW (W : Why → Prop) (o : GenOpts) (E : List Int) {α} (r : R α) (ds : List Draw) : Prop :=
  match r with
  | .ok _ rest tr => ds = tr.map Ev.draw ++ rest ∧ ∀ e ∈ tr, e.unmapped o E
  | .stuck q w => W w ∧ q ≤ ds.length

/-- what `setFields` satisfies on every draw sequence; `generate` adds the reason `leftover` (`rp_fine_generate`) -/
abbrev Fine (o : GenOpts) (E : List Int) {α} (r : R α) (ds : List Draw) : Prop := FineW Benign o E r ds

section
variable {W : Why → Prop} {o : GenOpts} {E : List Int} {α β : Type}

theorem FineW.bind {r : R α} {f : α → List Draw → R β} {ds : List Draw} (h1 : FineW W o E r ds)
    (h2 : ∀ a rest, FineW W o E (f a rest) rest) : FineW W o E (r.bind f) ds := by
  cases r with
  | stuck q w => exact h1
  | ok a rest tr =>
    have := h2 a rest
    simp only [R.bind]
    simp only [FineW] at h1
    cases hf : f a rest with
    | stuck q w =>
      rw [hf] at this
      refine ⟨this.1, ?_⟩
      have := this.2
      rw [h1.1]
      simp only [List.length_append, List.length_map]
      omega
    | ok b rest' tr' =>
      rw [hf] at this
      simp only [FineW] at this ⊢
      exact ⟨by rw [h1.1, this.1]; simp, fun e he => (List.mem_append.1 he).elim (h1.2 e) (this.2 e)⟩

theorem FineW.map {r : R α} {g : α → β} {ds : List Draw} (h : FineW W o E r ds) : FineW W o E (r.map g) ds := by
  cases r <;> exact h

theorem FineW.mono {W' : Why → Prop} {r : R α} {ds : List Draw} (h : FineW W o E r ds) (hw : ∀ w, W w → W' w) :
    FineW W' o E r ds := by
  cases r with
  | ok a rest tr => exact h
  | stuck q w => exact ⟨hw w h.1, h.2⟩

theorem FineW.ok (a : α) (ds : List Draw) : FineW W o E (R.ok a ds []) ds := by simp [FineW]

theorem Fine.draw (g : Gen) (hg : ∀ d, Ev.unmapped o E ⟨g, d⟩) (ds : List Draw) :
    Fine o E (Rapidproto.draw g ds) ds := by
  cases ds with
  | nil => simp [Rapidproto.draw, FineW, Benign]
  | cons d ds =>
    simp only [Rapidproto.draw]
    split
    · simpa [FineW] using hg d
    · simp [FineW, Benign]

theorem Fine.flag (ds : List Draw) : Fine o E (Rapidproto.draw .flag ds) ds :=
  Fine.draw _ (fun _ => Or.inl rfl) ds

theorem Fine.count (m : Nat) (ds : List Draw) : Fine o E (Rapidproto.draw (.count m) ds) ds :=
  Fine.draw _ (fun _ => Or.inr (Or.inl ⟨m, rfl⟩)) ds
end

theorem rp_genScalar_mapped {o : GenOpts} {k : Kind} {w : Val} (h : o.mapper k = some w) (E : List Int)
    (ds : List Draw) : genScalar o E k ds = .ok w ds [] := by
  simp [genScalar, h]

theorem rp_genScalar_unmapped {o : GenOpts} {k : Kind} (h : o.mapper k = none) (E : List Int)
    (ds : List Draw) : genScalar o E k ds = (draw (scalarGen E k) ds).map (scalarVal E k) := by
  simp [genScalar, h]

theorem rp_mapperOK_none (E : List Int) (o : GenOpts) (h : o.mapper = fun _ => none) : MapperOK E o :=
  ⟨fun k w hk => by simp [h] at hk, fun w hk => by simp [h] at hk, fun w hk => by simp [h] at hk⟩

theorem rp_mapperTyped_none (o : GenOpts) (h : o.mapper = fun _ => none) : MapperTyped o :=
  fun k w hk => by simp [h] at hk

theorem rp_mapVal_iff (o : GenOpts) (k : Kind) (v : Val) :
    mapVal o k v = true ↔ ∀ w, o.mapper k = some w → v = w := by
  unfold mapVal
  cases h : o.mapper k with
  | none => simp
  | some w => simp [rp_val_beq_iff]

end Pulsar.Rapidproto
