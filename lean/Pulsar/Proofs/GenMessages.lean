/-
  The nested messages of a file (Pulsar/Gen.lean §4): the scan of the by-pointer map, the flattened order
  (`walkTree` / `walkList` / `allPositions` against `nodeAt`), the message index, the descriptor path.
-/
import Pulsar.Gen
namespace Pulsar.Gen

/-! ### generic list facts -/

theorem nodup_map_of_inj_on {α β : Type} {f : α → β} {l : List α}
    (h : ∀ a ∈ l, ∀ b ∈ l, f a = f b → a = b) (hn : l.Nodup) : (l.map f).Nodup := by
  rw [List.Nodup, List.pairwise_map]
  exact List.Pairwise.imp_of_mem (fun ha hb hne heq => hne (h _ ha _ hb heq)) hn

theorem nodup_of_nodup_map {α β : Type} (f : α → β) {l : List α} (h : (l.map f).Nodup) : l.Nodup := by
  rw [List.Nodup, List.pairwise_map] at h
  exact h.imp (fun hne heq => hne (by rw [heq]))

theorem sublist_pair_idxOf {α : Type} [BEq α] [LawfulBEq α] {a b : α} {l : List α}
    (hs : [a, b].Sublist l) (hn : l.Nodup) : l.idxOf a < l.idxOf b := by
  -- `a` lies in a front part of `l`, `b` behind it and, there being no duplicates, not in it
  obtain ⟨r₁, r₂, rfl, ha, hb⟩ := List.cons_sublist_iff.1 hs
  have hb : b ∈ r₂ := hb.subset (List.mem_singleton_self b)
  have hb' : b ∉ r₁ := fun h => (List.nodup_append.1 hn).2.2 b h b hb rfl
  rw [List.idxOf_append, List.idxOf_append, if_pos ha, if_neg hb']
  have := List.idxOf_lt_length_of_mem ha
  omega

theorem idxOf_getElem? {α : Type} [BEq α] [LawfulBEq α] {l : List α} {a : α} (h : a ∈ l) :
    l[l.idxOf a]? = some a := by
  have hlt : l.idxOf a < l.length := List.idxOf_lt_length_iff.2 h
  rw [List.getElem?_eq_some_iff]
  exact ⟨hlt, List.getElem_idxOf hlt⟩

/-! ### the map scan -/

theorem scan_foldl {α : Type} (p : α → Bool) : ∀ (l : List (α × Nat)) (acc : Option Nat),
    (∃ e ∈ l, p e.1 = true ∧ l.foldl (fun acc e => if p e.1 then some e.2 else acc) acc = some e.2) ∨
    ((∀ e ∈ l, p e.1 = false) ∧ l.foldl (fun acc e => if p e.1 then some e.2 else acc) acc = acc)
  | [], acc => Or.inr ⟨fun _ h => (nomatch h), rfl⟩
  | x :: xs, acc => by
    rw [List.foldl_cons]
    rcases scan_foldl p xs (if p x.1 then some x.2 else acc) with ⟨e, he, hp, h⟩ | ⟨hn, h⟩
    · exact Or.inl ⟨e, List.mem_cons_of_mem _ he, hp, h⟩
    · cases hx : p x.1
      · exact Or.inr ⟨fun e he => (List.mem_cons.1 he).elim (· ▸ hx) (hn e), by simpa [hx] using h⟩
      · exact Or.inl ⟨x, List.mem_cons_self, hx, by simpa [hx] using h⟩

theorem scanLast_spec {α : Type} (p : α → Bool) (l : List (α × Nat)) :
    (∃ e ∈ l, p e.1 = true ∧ scanLast p l = some e.2) ∨ ((∀ e ∈ l, p e.1 = false) ∧ scanLast p l = none) :=
  scan_foldl p l none

theorem scanLast_eq_some {α : Type} (p : α → Bool) (l : List (α × Nat)) (v : Nat)
    (hall : ∀ e ∈ l, p e.1 = true → e.2 = v) (hex : ∃ e ∈ l, p e.1 = true) : scanLast p l = some v := by
  rcases scanLast_spec p l with ⟨e, he, hp, h⟩ | ⟨hn, _⟩
  · rw [h, hall e he hp]
  · obtain ⟨e, he, hp⟩ := hex
    rw [hn e he] at hp
    cases hp

theorem scanLast_perm {α : Type} (p : α → Bool) {l₁ l₂ : List (α × Nat)} (hp : l₁.Perm l₂)
    (huniq : ∀ e ∈ l₁, ∀ e' ∈ l₁, p e.1 = true → p e'.1 = true → e.2 = e'.2) :
    scanLast p l₁ = scanLast p l₂ := by
  rcases scanLast_spec p l₁ with ⟨e, he, hpe, h⟩ | ⟨hn, h⟩
  · rw [h, scanLast_eq_some p l₂ e.2 (fun e' he' hp' => huniq e' (hp.mem_iff.2 he') e he hp' hpe)
      ⟨e, hp.mem_iff.1 he, hpe⟩]
  · rcases scanLast_spec p l₂ with ⟨e, he, hpe, _⟩ | ⟨_, h'⟩
    · rw [hn e (hp.mem_iff.2 he)] at hpe
      cases hpe
    · rw [h, h']

/-! ### flattened order -/

theorem walkTree_node (n : String) (cs : List MsgTree) :
    walkTree (.node n cs) = (List.range cs.length).map ([·]) ++ walkList 0 cs := by
  simp [walkTree]

theorem walkList_nil (i : Nat) : walkList i [] = [] := by simp [walkList]

theorem walkList_cons (i : Nat) (m : MsgTree) (ms : List MsgTree) :
    walkList i (m :: ms) = (walkTree m).map (i :: ·) ++ walkList (i + 1) ms := by
  simp [walkList]

theorem allPositions_eq (tops : List MsgTree) : allPositions tops = walkTree (.node "" tops) := by
  rw [walkTree_node]; rfl

theorem walkList_eq_flatMap : ∀ (ms : List MsgTree) (i : Nat),
    walkList i ms = (ms.zipIdx i).flatMap (fun p => (walkTree p.1).map (p.2 :: ·))
  | [], i => by simp [walkList_nil]
  | m :: ms, i => by simp [walkList_cons, walkList_eq_flatMap ms (i + 1)]

theorem cons_mem_walkList {k : Nat} {rest : Pos} {ms : List MsgTree} {i : Nat} :
    (k :: rest) ∈ walkList i ms ↔ i ≤ k ∧ ∃ m, ms[k - i]? = some m ∧ rest ∈ walkTree m := by
  simp only [walkList_eq_flatMap, List.mem_flatMap, List.mem_map, List.mem_zipIdx_iff_le_and_getElem?_sub,
    Prod.exists, List.cons.injEq]
  constructor
  · rintro ⟨m, _, ⟨hk, hm⟩, _, hr, rfl, rfl⟩
    exact ⟨hk, m, hm, hr⟩
  · rintro ⟨hk, m, hm, hr⟩
    exact ⟨m, k, ⟨hk, hm⟩, rest, hr, rfl, rfl⟩

theorem nodeAt_nil (ms : List MsgTree) : nodeAt ms [] = none := by
  cases ms <;> rfl

theorem nodeAt_single (ms : List MsgTree) (i : Nat) : nodeAt ms [i] = ms[i]? := by
  simp [nodeAt]

theorem nodeAt_cons_cons (ms : List MsgTree) (i j : Nat) (rest : Pos) :
    nodeAt ms (i :: j :: rest) = match ms[i]? with
      | some (.node _ cs) => nodeAt cs (j :: rest)
      | none => none := by
  rfl

theorem nodeAt_cons_isSome {ms : List MsgTree} {i : Nat} {rest : Pos} :
    (nodeAt ms (i :: rest)).isSome = true ↔
      ∃ m, ms[i]? = some m ∧ (rest = [] ∨ (nodeAt m.children rest).isSome = true) := by
  cases hm : ms[i]? with
  | none => cases rest <;> simp [nodeAt_single, nodeAt_cons_cons, hm]
  | some m =>
    cases m
    cases rest <;> simp [nodeAt_single, nodeAt_cons_cons, hm, MsgTree.children]

theorem mem_walkTree : ∀ {r : Pos} {t : MsgTree},
    r ∈ walkTree t ↔ (nodeAt t.children r).isSome = true := by
  intro r
  induction r with
  | nil =>
    intro t
    cases t with
    | node n cs =>
      rw [walkTree_node, nodeAt_nil]
      simp [walkList_eq_flatMap]
  | cons k rest ih =>
    intro t
    cases t with
    | node n cs =>
      rw [walkTree_node, List.mem_append, cons_mem_walkList, nodeAt_cons_isSome]
      simp only [MsgTree.children, Nat.zero_le, true_and, Nat.sub_zero]
      -- a child of the node itself (`rest = []`), or a position below one of its children
      constructor
      · rintro (h | ⟨m, hm, hr⟩)
        · obtain ⟨a, ha, he⟩ := List.mem_map.1 h
          injection he with h1 h2
          subst h1
          exact ⟨cs[a]'(List.mem_range.1 ha), by simp [List.mem_range.1 ha], Or.inl h2.symm⟩
        · exact ⟨m, hm, Or.inr (ih.1 hr)⟩
      · rintro ⟨m, hm, rfl | h⟩
        · exact Or.inl (List.mem_map.2 ⟨k, List.mem_range.2 (List.getElem?_eq_some_iff.1 hm).1, rfl⟩)
        · exact Or.inr ⟨m, hm, ih.2 h⟩

theorem mem_allPositions {tops : List MsgTree} {p : Pos} :
    p ∈ allPositions tops ↔ (nodeAt tops p).isSome = true := by
  rw [allPositions_eq, mem_walkTree]; rfl

mutual
theorem nodup_walkTree : ∀ (t : MsgTree), (walkTree t).Nodup
  | .node n cs => by
    rw [walkTree_node, List.nodup_append]
    refine ⟨?_, nodup_walkList 0 cs, ?_⟩
    · exact nodup_map_of_inj_on (fun a _ b _ e => by injection e) List.nodup_range
    · intro a ha b hb hab
      obtain ⟨k, _, rfl⟩ := List.mem_map.1 ha
      subst hab
      obtain ⟨_, m, _, hr⟩ := cons_mem_walkList.1 hb
      rw [mem_walkTree, nodeAt_nil] at hr
      cases hr
theorem nodup_walkList : ∀ (i : Nat) (ms : List MsgTree), (walkList i ms).Nodup
  | i, [] => by simp [walkList_nil]
  | i, m :: ms => by
    rw [walkList_cons, List.nodup_append]
    refine ⟨nodup_map_of_inj_on (fun a _ b _ e => by injection e) (nodup_walkTree m), nodup_walkList (i + 1) ms, ?_⟩
    intro a ha b hb hab
    obtain ⟨r, _, rfl⟩ := List.mem_map.1 ha
    subst hab
    have := (cons_mem_walkList.1 hb).1
    omega
end

theorem nodup_allPositions (tops : List MsgTree) : (allPositions tops).Nodup := by
  rw [allPositions_eq]; exact nodup_walkTree _

theorem sub_walkList {m : MsgTree} {ms : List MsgTree} {i j : Nat} (h : ms[j]? = some m) :
    ((walkTree m).map ((i + j) :: ·)).Sublist (walkList i ms) := by
  rw [walkList_eq_flatMap, List.flatMap]
  exact List.sublist_flatten_of_mem (List.mem_map.2 ⟨(m, i + j),
    List.mem_zipIdx_iff_le_and_getElem?_sub.2 ⟨by omega, by simpa using h⟩, rfl⟩)

theorem before_walkTree (i : Nat) : ∀ (p : Pos) (t : MsgTree), p ≠ [] → (p ++ [i]) ∈ walkTree t →
    [p, p ++ [i]].Sublist (walkTree t) := by
  intro p
  induction p with
  | nil => intro t h; exact absurd rfl h
  | cons k p' ih =>
    intro t _ hmem
    cases t with
    | node n cs =>
      rw [walkTree_node] at hmem ⊢
      have hW : (k :: (p' ++ [i])) ∈ walkList 0 cs := by
        rcases List.mem_append.1 hmem with h | h
        · obtain ⟨a, _, he⟩ := List.mem_map.1 h
          injection he with _ h2
          cases p' <;> simp at h2
        · exact h
      obtain ⟨_, m, hj, hr⟩ := cons_mem_walkList.1 hW
      rw [Nat.sub_zero] at hj
      have hsubW := sub_walkList (i := 0) hj
      rw [Nat.zero_add] at hsubW
      by_cases hp' : p' = []
      · subst hp'
        have hlt : k < cs.length := (List.getElem?_eq_some_iff.1 hj).1
        have h1 : [[k]].Sublist ((List.range cs.length).map ([·])) :=
          List.singleton_sublist.2 (List.mem_map.2 ⟨k, List.mem_range.2 hlt, rfl⟩)
        have h2 : [[k] ++ [i]].Sublist (walkList 0 cs) := List.singleton_sublist.2 hW
        exact h1.append h2
      · have := (ih m hp' hr).map (k :: ·)
        exact (this.trans hsubW).trans (List.sublist_append_right _ _)

/-! ### message index -/

theorem byPtr_mem {tops : List MsgTree} {e : Pos × Nat} :
    e ∈ byPtr tops ↔ (allPositions tops)[e.2]? = some e.1 := List.mem_zipIdx_iff_getElem?

theorem byPtr_unique {tops : List MsgTree} (hu : (allMessages tops).Nodup) {e e' : Pos × Nat}
    (he : e ∈ byPtr tops) (he' : e' ∈ byPtr tops) (hn : fullName tops e.1 = fullName tops e'.1) :
    e.2 = e'.2 := by
  have h1 : (allMessages tops)[e.2]? = some (fullName tops e.1) := by
    simp [allMessages, List.getElem?_map, byPtr_mem.1 he]
  have h2 : (allMessages tops)[e'.2]? = some (fullName tops e.1) := by
    simp [allMessages, List.getElem?_map, byPtr_mem.1 he', hn]
  exact (List.getElem?_inj (List.getElem?_eq_some_iff.1 h1).1 hu).1 (h1.trans h2.symm)

theorem msgIndex_eq (o : List (Pos × Nat) → List (Pos × Nat)) (hperm : ∀ l, (o l).Perm l)
    (tops : List MsgTree) (pos : Pos) (hu : (allMessages tops).Nodup) (hmem : pos ∈ allPositions tops) :
    msgIndex o tops pos = some ((allPositions tops).idxOf pos) := by
  have hself : (pos, (allPositions tops).idxOf pos) ∈ byPtr tops := byPtr_mem.2 (idxOf_getElem? hmem)
  apply scanLast_eq_some
  · intro e he hp
    have he' : e ∈ byPtr tops := (hperm _).mem_iff.1 he
    exact byPtr_unique hu he' hself (by simpa using hp)
  · exact ⟨_, (hperm _).mem_iff.2 hself, by simp⟩

/-! ### descriptor path -/

theorem findIdx_of_distinct {ms : List MsgTree} {i : Nat} {m : MsgTree}
    (hn : (ms.map MsgTree.name).Nodup) (h : ms[i]? = some m) :
    ms.findIdx? (fun x => x.name == m.name) = some i := by
  obtain ⟨hi, rfl⟩ := List.getElem?_eq_some_iff.1 h
  refine List.findIdx?_eq_some_iff_getElem.2 ⟨hi, by simp, fun j hji hp => ?_⟩
  -- an earlier message of the same name would be a second occurrence of the name
  have := (List.getElem_inj (xs := ms.map MsgTree.name) (i := j) (j := i)
    (h₀ := by simp; omega) (h₁ := by simpa using hi) hn).1 (by simpa using hp)
  omega

theorem uniqAll_get : ∀ {ms : List MsgTree} {i : Nat} {n : String} {cs : List MsgTree},
    uniqAll ms = true → ms[i]? = some (.node n cs) → namesDistinct cs = true ∧ uniqAll cs = true := by
  intro ms
  induction ms with
  | nil => intro i n cs _ h; simp at h
  | cons x xs ih =>
    intro i n cs hu h
    simp only [uniqAll, Bool.and_eq_true] at hu
    cases i with
    | zero =>
      simp at h
      subst h
      simpa [uniqTree] using hu.1
    | succ i => exact ih hu.2 (by simpa using h)

theorem resolve_findParents : ∀ (p : Pos) (ms : List MsgTree),
    namesDistinct ms = true → uniqAll ms = true → (nodeAt ms p).isSome = true →
      resolve ms (findParents ms p) = some p := by
  intro p
  induction p with
  | nil => intro ms _ _ h; rw [nodeAt_nil] at h; cases h
  | cons i rest ih =>
    intro ms hd hu hv
    obtain ⟨m, hm, hrest⟩ := nodeAt_cons_isSome.1 hv
    cases m with
    | node n cs =>
      have hidx : ms.findIdx? (fun x => x.name == n) = some i :=
        findIdx_of_distinct (by simpa [namesDistinct] using hd) hm
      simp only [findParents, hm, resolve, hidx]
      obtain ⟨hd', hu'⟩ := uniqAll_get hu hm
      rcases hrest with h | h
      · subst h
        simp [findParents, resolve]
      · simp only [MsgTree.children] at h
        rw [ih cs hd' hu' h]
        rfl

end Pulsar.Gen
