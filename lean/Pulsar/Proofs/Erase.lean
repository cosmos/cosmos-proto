/-
  Pulsar.Proofs.Erase — `eraseUnknown` without its fuel, and the shape invariant (`Sh`) under which
  erasing commutes with every step of the decoder (C14_discard).
-/
import Pulsar.Proofs.ValDepth
namespace Pulsar

/-! ## shape invariant: message-typed positions hold nil or a (well-shaped) message value,
    containers have their constructor -/

def shElem (child : Nat → Val → Bool) (e : Elem) (v : Val) : Bool :=
  match e with
  | .scalar _ => true
  | .message i => v.isNone || child i v

def shSlot (child : Nat → Val → Bool) (f : FieldDesc) (v : Val) : Bool :=
  match f.shape, v with
  | .singular, v => shElem child f.elem v
  | .repeated _, .list _ es => es.all (shElem child f.elem)
  | .map _, .map _ es => es.all (fun en => shElem child f.elem en.value)
  | .oneof _, .one x => shElem child f.elem x
  | .oneof _, _ => true
  | _, _ => false

def shaped (S : Schema) : Nat → Nat → Val → Bool
  | 0, _, _ => false
  | fuel+1, i, v =>
    match v with
    | .msg slots _ =>
      slots.length == (S.msg i).fields.length &&
      ((S.msg i).fields.zip slots).all (fun p => shSlot (shaped S fuel) p.1 p.2)
    | _ => false

theorem eraseElem_congr {c1 c2 : Nat → Val → Val} (e : Elem) (v : Val)
    (h : ∀ i, c1 i v = c2 i v) : eraseElem c1 e v = eraseElem c2 e v := by
  unfold eraseElem
  split
  · rfl
  · rw [h]

theorem eraseSlot_congr {c1 c2 : Nat → Val → Val} (f : FieldDesc) (v : Val)
    (h : ∀ i x, x.depth ≤ v.depth → c1 i x = c2 i x) : eraseSlot c1 f v = eraseSlot c2 f v := by
  unfold eraseSlot
  -- the alternatives of `eraseSlot`'s match on shape and value, in its order
  split
  · -- singular
    exact eraseElem_congr _ _ (fun i => h i _ (Nat.le_refl _))
  · -- repeated, a list
    congr 1
    apply List.map_congr_left
    intro x hx
    exact eraseElem_congr _ _ (fun i => h i _ (by simpa using Val.depth_le_depthList hx))
  · -- map, a map
    congr 1
    apply List.map_congr_left
    intro en hen
    congr 1
    refine eraseElem_congr _ _ (fun i => h i _ ?_)
    have := Val.depth_le_depthList hen
    have := Val.depth_value_le en
    simp only [Val.depth_map]; omega
  · -- oneof, `.one x`
    rename_i x
    congr 1
    exact eraseElem_congr _ _ (fun i => h i _ (by simp))
  · -- any other value is left alone
    rfl

theorem shElem_congr {c1 c2 : Nat → Val → Bool} (e : Elem) (v : Val)
    (h : ∀ i, c1 i v = c2 i v) : shElem c1 e v = shElem c2 e v := by
  unfold shElem
  split
  · rfl
  · rw [h]

theorem shSlot_congr {c1 c2 : Nat → Val → Bool} (f : FieldDesc) (v : Val)
    (h : ∀ i x, x.depth ≤ v.depth → c1 i x = c2 i x) : shSlot c1 f v = shSlot c2 f v := by
  unfold shSlot
  -- the alternatives of `shSlot`'s match on shape and value, in its order
  split
  · -- singular
    exact shElem_congr _ _ (fun i => h i _ (Nat.le_refl _))
  · -- repeated, a list
    apply all_congr_mem
    intro x hx
    exact shElem_congr _ _ (fun i => h i _ (by simpa using Val.depth_le_depthList hx))
  · -- map, a map
    apply all_congr_mem
    intro en hen
    refine shElem_congr _ _ (fun i => h i _ ?_)
    have := Val.depth_le_depthList hen
    have := Val.depth_value_le en
    simp only [Val.depth_map]; omega
  · -- oneof, `.one x`
    rename_i x
    exact shElem_congr _ _ (fun i => h i _ (by simp))
  · -- oneof, any other value
    rfl
  · -- a container of the wrong constructor
    rfl

theorem eraseUnknown_fuel (S : Schema) : ∀ (F1 F2 i : Nat) (v : Val), v.depth ≤ F1 → v.depth ≤ F2 →
    eraseUnknown S F1 i v = eraseUnknown S F2 i v :=
  fuel_stable (eraseUnknown S) (fun _ v => v)
    (fun n i v hv => by
      cases n with
      | zero => rfl
      | succ n => cases v <;> first | rfl | exact absurd rfl (hv _ _))
    (fun n m i slots u h => by
      simp only [eraseUnknown]
      congr 1
      exact List.map_congr_left fun p hp => eraseSlot_congr _ _ fun j x hx =>
        h j x (Nat.le_trans hx (Val.depth_le_depthList (List.of_mem_zip hp).2)))

theorem shaped_fuel (S : Schema) : ∀ (F1 F2 i : Nat) (v : Val), v.depth ≤ F1 → v.depth ≤ F2 →
    shaped S F1 i v = shaped S F2 i v :=
  fuel_stable (shaped S) (fun _ _ => false)
    (fun n i v hv => by
      cases n with
      | zero => rfl
      | succ n => cases v <;> first | rfl | exact absurd rfl (hv _ _))
    (fun n m i slots u h => by
      simp only [shaped]
      congr 1
      exact all_congr_mem fun p hp => shSlot_congr _ _ fun j x hx =>
        h j x (Nat.le_trans hx (Val.depth_le_depthList (List.of_mem_zip hp).2)))

/-- erase every unknown set of `v` (a value of message type `i`) -/
def E (S : Schema) (i : Nat) (v : Val) : Val := eraseUnknown S (v.depth + 1) i v
/-- `v` is a well-shaped non-nil message value of type `i` -/
def Sh (S : Schema) (i : Nat) (v : Val) : Bool := shaped S (v.depth + 1) i v

theorem eraseUnknown_eq_E (S : Schema) (F i : Nat) (v : Val) (h : v.depth ≤ F) : eraseUnknown S F i v = E S i v :=
  eraseUnknown_fuel S _ _ i v h (by omega)

theorem shaped_eq_Sh (S : Schema) (F i : Nat) (v : Val) (h : v.depth ≤ F) : shaped S F i v = Sh S i v :=
  shaped_fuel S _ _ i v h (by omega)

def ES (S : Schema) (f : FieldDesc) (v : Val) : Val := eraseSlot (E S) f v
def ShS (S : Schema) (f : FieldDesc) (v : Val) : Bool := shSlot (Sh S) f v

theorem E_msg (S : Schema) (i : Nat) (slots : List Val) (u : Bytes) :
    E S i (Val.msg slots u) = Val.msg (((S.msg i).fields.zip slots).map (fun p => ES S p.1 p.2)) [] := by
  simp only [E, eraseUnknown, ES]
  congr 1
  apply List.map_congr_left
  intro p hp
  have hs := Val.depth_le_depthList (List.of_mem_zip hp).2
  exact eraseSlot_congr _ _ (fun i' x hx => eraseUnknown_eq_E S _ i' x (by simp only [Val.depth_msg]; omega))

theorem Sh_msg (S : Schema) (i : Nat) (slots : List Val) (u : Bytes) :
    Sh S i (Val.msg slots u) =
      (slots.length == (S.msg i).fields.length && ((S.msg i).fields.zip slots).all (fun p => ShS S p.1 p.2)) := by
  simp only [Sh, shaped, ShS]
  congr 1
  apply all_congr_mem
  intro p hp
  have hs := Val.depth_le_depthList (List.of_mem_zip hp).2
  exact shSlot_congr _ _ (fun i' x hx => shaped_eq_Sh S _ i' x (by simp only [Val.depth_msg]; omega))

theorem Sh_is_msg {S : Schema} {i : Nat} {v : Val} (h : Sh S i v = true) : ∃ slots u, v = Val.msg slots u := by
  cases v with
  | msg s u => exact ⟨s, u, rfl⟩
  | _ => simp [Sh, shaped] at h

theorem E_of_not_msg (S : Schema) (i : Nat) (v : Val) (h : ∀ s u, v ≠ Val.msg s u) : E S i v = v := by
  cases v with
  | msg s u => exact absurd rfl (h s u)
  | _ => rfl

end Pulsar
