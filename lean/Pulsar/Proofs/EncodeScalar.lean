/-
  Pulsar.Proofs.EncodeScalar — key bytes / key size, the wire-type table, and per-kind scalar bytes:
  implementation = reference under `scalarOK` (sizes against bytes: MarshalTotal).
-/
import Pulsar.Proofs.Typing
import Pulsar.Proofs.RuntimeVarint
namespace Pulsar

theorem keyBytesLoop_eq_varint (x : Nat) : keyBytesLoop x = varint x := by
  induction x using Nat.strongRecOn with
  | _ x ih =>
    rw [keyBytesLoop, varint]
    by_cases h : x < 128
    · have h' : ¬ x > 127 := by omega
      simp [h, h']
    · have h' : x > 127 := by omega
      simp only [h, h', dite_true, dite_false]
      rw [ih (x / 128) (by omega), Nat.add_comm]

theorem keySizeLoop_eq_length (x : Nat) : keySizeLoop x = (keyBytesLoop x).length := by
  induction x using Nat.strongRecOn with
  | _ x ih =>
    rw [keySizeLoop, keyBytesLoop]
    by_cases h : x > 127
    · simp only [h, dite_true, List.length_cons]
      rw [ih (x / 128) (by omega)]
    · simp [h]

theorem keySize_eq_length (num wt : Nat) : keySize num wt = (keyBytes num wt).length :=
  keySizeLoop_eq_length _

theorem keyWord_eq (num wt : Nat) (hn : num < 536870912) (hw : wt < 8) :
    keyWord num wt = num * 8 + wt := by
  unfold keyWord
  have h1 : num % 4294967296 = num := Nat.mod_eq_of_lt (by omega)
  have h2 : num * 8 % 4294967296 = num * 8 := Nat.mod_eq_of_lt (by omega)
  rw [h1, h2]
  have := Nat.shiftLeft_add_eq_or_of_lt (i := 3) (b := wt) (by omega) num
  rw [Nat.shiftLeft_eq] at this
  exact this.symm

theorem keyBytes_eq_tag (num wt : Nat) (hn : num < 536870912) (hw : wt < 8) :
    keyBytes num wt = tag num wt := by
  unfold keyBytes tag
  rw [keyBytesLoop_eq_varint, keyWord_eq num wt hn hw]

theorem keySize_eq_tag_length {num wt : Nat} (hn : num < 536870912) (hw : wt < 8) :
    keySize num wt = (tag num wt).length := by
  rw [keySize_eq_length, keyBytes_eq_tag num wt hn hw]

theorem wireType_eq_spec (k : Kind) : Extracted.wireType k = k.specWireType := by
  cases k <;> rfl

theorem wireType_lt_8 (k : Kind) : Extracted.wireType k < 8 := by
  cases k <;> decide

theorem specWireType_lt_8 (k : Kind) : k.specWireType < 8 := by cases k <;> decide

theorem elem_wireType_lt_8 (e : Elem) : e.wireType < 8 := by
  cases e with
  | scalar k => exact wireType_lt_8 k
  | message i => show 2 < 8; omega

theorem elem_wireType_eq (e : Elem) :
    e.wireType = (match e with | .scalar k => k.specWireType | .message _ => 2) := by
  cases e with
  | scalar k => exact wireType_eq_spec k
  | message i => rfl

theorem specTag_eq (f : FieldDesc) : specTag f = tag f.num f.elem.wireType := by
  rw [elem_wireType_eq]; rfl

theorem specEntry_eq (child : Nat → Val → Bytes) (kk : Kind) (e : Elem) (en : Val) :
    specEntry child kk e en =
      tag 1 kk.specWireType ++ specScalar kk en.key ++ tag 2 e.wireType ++ specElem child e en.value := by
  rw [elem_wireType_eq]; rfl

theorem sext32_lt {n : Nat} (h : n < 4294967296) : sext32 n < 18446744073709551616 := by
  unfold sext32; split <;> omega

theorem zigzag32_eq {n : Nat} (h : n < 4294967296) : zigzag32 n = zigzag64 (sext32 n) := by
  unfold zigzag32 zigzag64 sext32
  split <;> split <;> omega

theorem length_le (w n : Nat) : (le w n).length = w := by
  induction w generalizing n with
  | zero => rfl
  | succ w ih => simp [le, ih]

theorem implScalarBytes_eq_spec {k : Kind} {v : Val} (h : scalarOK k v = true) :
    implScalarBytes k v = specScalar k v := by
  cases k
  case sint32 =>
    obtain ⟨n, rfl, hn⟩ := scalarOK_bits h rfl
    simp [Kind.width] at hn
    simp [implScalarBytes, specScalar, Kind.toVarint, Val.getBits, zigzag32_eq hn]
  case bool =>
    obtain ⟨n, rfl, hn⟩ := scalarOK_bits h rfl
    simp at hn
    have : n = 0 ∨ n = 1 := by omega
    rcases this with rfl | rfl
    · simp [implScalarBytes, specScalar, Kind.toVarint, Val.getBits]; rw [varint]; simp
    · simp [implScalarBytes, specScalar, Kind.toVarint, Val.getBits]; rw [varint]; simp
  all_goals simp [implScalarBytes, specScalar, Kind.toVarint]

theorem implPresent_eq_spec (k : Kind) (v : Val) : implPresent k v = specPresent k v := by
  cases k <;> simp [implPresent, specPresent, Kind.isBlob]

theorem implPresent_none (k : Kind) : implPresent k .none = false := by cases k <;> rfl

end Pulsar
