/-
  Pulsar.Proofs.DecodeNoPanic — the generated unmarshal closure never panics, and `proto.Unmarshal`
  around it panics only in the generated `Reset` of a nil target (C06).

  The only panicking primitive of the closure is `sliceTo`; each reader guards it (`DecodeReaders`), and
  everything above the readers is `>>=`, `mapR` and `if` (`DecodeStep`), which pass "does not panic" on.
-/
import Pulsar.Proofs.DecodeStep
import Pulsar.Proofs.Walk
namespace Pulsar

theorem implPackedLoop_ne_panic (k : Kind) : ∀ (fuel : Nat) (rest : Bytes) (rem : Nat) (acc : List Val),
    implPackedLoop k fuel rest rem acc ≠ .panic := by
  intro fuel
  induction fuel with
  | zero => intro rest rem acc; simp [implPackedLoop]
  | succ fuel ih =>
    intro rest rem acc
    rw [implPackedLoop_succ]
    exact Res.ite_ne_panic (fun _ => by simp) fun _ =>
      Res.bind_ne_panic (implReadScalar_ne_panic k rest) fun _ _ => ih _ _ _

section child
variable {c : Nat → Val → Bytes → Res Val} (hc : ∀ i into p, c i into p ≠ .panic)
include hc

theorem implReadMapField_ne_panic (S : Schema) (e : Elem) (old : Val) (rest : Bytes) :
    implReadMapField c S e old rest ≠ .panic := by
  cases e with
  | scalar k => exact implReadScalar_ne_panic k rest
  | message i =>
    rw [implReadMapField_message]
    exact Res.bind_ne_panic (readLenDelim_ne_panic rest) fun _ _ => Res.mapR_ne_panic.2 (hc _ _ _)

theorem implEntryLoop_ne_panic (S : Schema) (kk : Kind) (e : Elem) :
    ∀ (fuel : Nat) (rest : Bytes) (rem : Nat) (k v : Val), implEntryLoop c S kk e fuel rest rem k v ≠ .panic := by
  intro fuel
  induction fuel with
  | zero => intro rest rem k v; simp [implEntryLoop]
  | succ fuel ih =>
    intro rest rem k v
    rw [implEntryLoop_succ]
    refine Res.ite_ne_panic (fun _ => by simp) fun _ => Res.bind_ne_panic (readVarint_ne_panic rest) fun wr _ => ?_
    refine Res.ite_ne_panic (fun _ => ?_) fun _ => Res.ite_ne_panic (fun _ => ?_) fun _ => ?_
    · exact Res.bind_ne_panic (implReadMapField_ne_panic hc S _ _ _) fun _ _ => ih _ _ _ _
    · exact Res.bind_ne_panic (implReadMapField_ne_panic hc S _ _ _) fun _ _ => ih _ _ _ _
    · exact Res.bind_ne_panic (skip_ne_panic rest) fun _ _ => Res.ite_ne_panic (fun _ => by simp) fun _ => ih _ _ _ _

theorem slotStep_ne_panic (S : Schema) (f : FieldDesc) (wt : Nat) (cur : Val) (rest : Bytes) :
    slotStep S c f wt cur rest ≠ .panic := by
  unfold slotStep
  split
  · exact Res.ite_ne_panic (fun _ => Res.bind_ne_panic (readLen_ne_panic rest) fun _ _ =>
      Res.mapR_ne_panic.2 (implEntryLoop_ne_panic hc S _ _ _ _ _ _ _)) fun _ => by simp
  · refine Res.ite_ne_panic (fun _ => Res.mapR_ne_panic.2 (implReadMapField_ne_panic hc S _ _ _)) fun _ => ?_
    split
    · exact Res.ite_ne_panic (fun _ => Res.bind_ne_panic (readLen_ne_panic rest) fun _ _ =>
        Res.mapR_ne_panic.2 (implPackedLoop_ne_panic _ _ _ _ _)) fun _ => by simp
    · simp

theorem implKnownField_ne_panic (S : Schema) (fs : List FieldDesc) (j : Nat) (f : FieldDesc) (wt : Nat) (m : Val)
    (rest : Bytes) : implKnownField S fs c j f wt m rest ≠ .panic := by
  rw [implKnownField_eq]
  exact Res.mapR_ne_panic.2 (slotStep_ne_panic hc S f wt _ rest)

theorem implRecord_ne_panic (S : Schema) (i : Nat) (o : UOpts) (m : Val) (rest : Bytes) :
    implRecord S i o c m rest ≠ .panic := by
  unfold implRecord
  refine Res.bind_ne_panic (readVarint_ne_panic rest) fun wr _ =>
    Res.ite_ne_panic (fun _ => by simp) fun _ => Res.ite_ne_panic (fun _ => by simp) fun _ => ?_
  split
  · exact implKnownField_ne_panic hc S _ _ _ _ _ _
  · exact Res.bind_ne_panic (skip_ne_panic rest) fun _ _ => Res.ite_ne_panic (fun _ => by simp) fun _ => by simp

theorem implUnmarshalLoop_ne_panic (S : Schema) (i : Nat) (o : UOpts) : ∀ (fuel : Nat) (m : Val) (rest : Bytes),
    implUnmarshalLoop S i o c fuel m rest ≠ .panic := by
  intro fuel
  induction fuel with
  | zero => intro m rest; simp [implUnmarshalLoop]
  | succ fuel ih =>
    intro m rest
    rw [implUnmarshalLoop_succ]
    exact Res.ite_ne_panic (fun _ => by simp) fun _ => Res.bind_ne_panic (implRecord_ne_panic hc S i o m rest) fun _ _ =>
      Res.ite_ne_panic (fun _ => ih _ _) fun _ => by simp

end child

theorem implUnmarshalClosure_ne_panic (S : Schema) (o : UOpts) : ∀ (fuel : Nat) (depth : Int) (i : Nat)
    (into : Val) (bs : Bytes), implUnmarshalClosure S o fuel depth i into bs ≠ .panic := by
  intro fuel
  induction fuel with
  | zero => intro depth i into bs; simp [implUnmarshalClosure]
  | succ fuel ih =>
    intro depth i into bs
    rw [implUnmarshalClosure_succ]
    exact Res.ite_ne_panic (fun _ => by simp) fun _ => Res.ite_ne_panic (fun _ => by simp) fun _ =>
      implUnmarshalLoop_ne_panic (fun i into p => ih _ i into p) S i o _ _ _

theorem implUnmarshal_panic_iff (S : Schema) (o : UOpts) (i : Nat) (m0 : Val) (bs : Bytes) :
    implUnmarshal S o i m0 bs = .panic ↔ (o.merge = false ∧ m0.isNone = true) := by
  rw [implUnmarshal_eq]
  by_cases h : (!o.merge && m0.isNone) = true
  · rw [if_pos h]
    simpa using h
  · rw [if_neg h]
    exact ⟨fun hp => absurd hp (implUnmarshalClosure_ne_panic S o _ _ _ _ _), fun hp => absurd (by simpa using hp) h⟩

end Pulsar
