/-
  Pulsar.Proofs.EncodeSort — a generic insertion sort that the three model sorts (`sortFV`,
  `sortDesc`, `sortBy`) are instances of; permutation, sortedness, uniqueness of sorted permutations.
-/
import Pulsar.Typing
namespace Pulsar

def ins {α : Type} (lt : α → α → Bool) (x : α) : List α → List α
  | [] => [x]
  | y :: ys => if lt x y then x :: y :: ys else y :: ins lt x ys

def isort {α : Type} (lt : α → α → Bool) : List α → List α
  | [] => []
  | x :: xs => ins lt x (isort lt xs)

theorem insertFV_eq (x : FieldDesc × Val) (l : List (FieldDesc × Val)) : insertFV x l = ins legacyLt x l := by
  induction l with
  | nil => rfl
  | cons y ys ih => simp [insertFV, ins, ih]

theorem sortFV_eq (l : List (FieldDesc × Val)) : sortFV l = isort legacyLt l := by
  induction l with
  | nil => rfl
  | cons y ys ih => simp [sortFV, isort, ih, insertFV_eq]

theorem insertDesc_eq (x : FieldDesc × Val) (l : List (FieldDesc × Val)) : insertDesc x l = ins numGt x l := by
  induction l with
  | nil => rfl
  | cons y ys ih => simp [insertDesc, ins, ih]

theorem sortDesc_eq (l : List (FieldDesc × Val)) : sortDesc l = isort numGt l := by
  induction l with
  | nil => rfl
  | cons y ys ih => simp [sortDesc, isort, ih, insertDesc_eq]

theorem insertBy_eq (lt : Val → Val → Bool) (x : Val) (l : List Val) : insertBy lt x l = ins lt x l := by
  induction l with
  | nil => rfl
  | cons y ys ih => simp [insertBy, ins, ih]

theorem sortBy_eq (lt : Val → Val → Bool) (l : List Val) : sortBy lt l = isort lt l := by
  induction l with
  | nil => rfl
  | cons y ys ih => simp [sortBy, isort, ih, insertBy_eq]

section generic
variable {α : Type} (lt : α → α → Bool)

theorem ins_perm (x : α) (l : List α) : (ins lt x l).Perm (x :: l) := by
  induction l with
  | nil => exact List.Perm.refl _
  | cons y ys ih =>
    simp only [ins]
    split
    · exact List.Perm.refl _
    · exact (List.Perm.cons y ih).trans (List.Perm.swap x y ys)

theorem isort_perm (l : List α) : (isort lt l).Perm l := by
  induction l with
  | nil => exact List.Perm.refl _
  | cons y ys ih => exact (ins_perm lt y _).trans (List.Perm.cons y ih)

theorem mem_isort {l : List α} {a : α} : a ∈ isort lt l ↔ a ∈ l := (isort_perm lt l).mem_iff

theorem ins_pairwise (htrans : ∀ a b c, lt a b = true → lt b c = true → lt a c = true)
    (x : α) (l : List α) (hl : l.Pairwise (fun a b => lt a b = true))
    (htot : ∀ y ∈ l, lt x y = true ∨ lt y x = true) :
    (ins lt x l).Pairwise (fun a b => lt a b = true) := by
  induction l with
  | nil => simp [ins]
  | cons y ys ih =>
    simp only [ins]
    rw [List.pairwise_cons] at hl
    split
    · rename_i hxy
      refine List.pairwise_cons.2 ⟨?_, List.pairwise_cons.2 hl⟩
      intro z hz
      rcases List.mem_cons.1 hz with rfl | hz
      · exact hxy
      · exact htrans _ _ _ hxy (hl.1 z hz)
    · rename_i hxy
      have hyx : lt y x = true := by
        rcases htot y List.mem_cons_self with h | h
        · exact absurd h hxy
        · exact h
      refine List.pairwise_cons.2 ⟨?_, ih hl.2 (fun z hz => htot z (List.mem_cons_of_mem _ hz))⟩
      intro z hz
      rcases List.mem_cons.1 ((ins_perm lt x ys).mem_iff.1 hz) with rfl | hz
      · exact hyx
      · exact hl.1 z hz

theorem isort_pairwise (htrans : ∀ a b c, lt a b = true → lt b c = true → lt a c = true)
    (l : List α) (htot : l.Pairwise (fun a b => lt a b = true ∨ lt b a = true)) :
    (isort lt l).Pairwise (fun a b => lt a b = true) := by
  induction l with
  | nil => simp [isort]
  | cons y ys ih =>
    rw [List.pairwise_cons] at htot
    simp only [isort]
    apply ins_pairwise lt htrans y _ (ih htot.2)
    intro z hz
    exact htot.1 z ((mem_isort lt).1 hz)

theorem sorted_perm_unique (hasymm : ∀ a b, lt a b = true → lt b a = true → False)
    {l₁ l₂ : List α} (hp : l₁.Perm l₂) (h₁ : l₁.Pairwise (fun a b => lt a b = true))
    (h₂ : l₂.Pairwise (fun a b => lt a b = true)) : l₁ = l₂ :=
  List.Perm.eq_of_pairwise (le := fun a b => lt a b = true)
    (fun a b _ _ hab hba => (hasymm a b hab hba).elim) h₁ h₂ hp

theorem isort_of_sorted (htrans : ∀ a b c, lt a b = true → lt b c = true → lt a c = true)
    (hasymm : ∀ a b, lt a b = true → lt b a = true → False)
    (l : List α) (hl : l.Pairwise (fun a b => lt a b = true)) : isort lt l = l :=
  sorted_perm_unique lt hasymm (isort_perm lt l)
    (isort_pairwise lt htrans l (hl.imp (fun h => Or.inl h))) hl

theorem isort_perm_eq (htrans : ∀ a b c, lt a b = true → lt b c = true → lt a c = true)
    (hasymm : ∀ a b, lt a b = true → lt b a = true → False) {l₁ l₂ : List α} (hp : l₁.Perm l₂)
    (htot : l₂.Pairwise (fun a b => lt a b = true ∨ lt b a = true)) : isort lt l₁ = isort lt l₂ :=
  sorted_perm_unique lt hasymm (((isort_perm lt l₁).trans hp).trans (isort_perm lt l₂).symm)
    (isort_pairwise lt htrans l₁ ((hp.pairwise_iff Or.symm).2 htot)) (isort_pairwise lt htrans l₂ htot)

theorem ins_map {β : Type} (lt' : β → β → Bool) (f : α → β)
    (h : ∀ a b, lt' (f a) (f b) = lt a b) (x : α) (l : List α) :
    ins lt' (f x) (l.map f) = (ins lt x l).map f := by
  induction l with
  | nil => rfl
  | cons y ys ih =>
    simp only [List.map_cons, ins, h]
    split
    · rfl
    · simp [ih]

theorem isort_map {β : Type} (lt' : β → β → Bool) (f : α → β)
    (h : ∀ a b, lt' (f a) (f b) = lt a b) (l : List α) :
    isort lt' (l.map f) = (isort lt l).map f := by
  induction l with
  | nil => rfl
  | cons y ys ih => simp only [List.map_cons, isort, ih, ins_map lt lt' f h]

end generic
end Pulsar
