/-
  One message level of the reflection machines: the abstraction of a slot list (`absSlots`) against `set` /
  `getD` / `clearGroup`, and how the outcome of a field-level write is applied to the message (`applyFW`).
-/
import Pulsar.Proofs.ReflectSlot
namespace Pulsar

theorem length_absSlots (c : Nat → Val → Val) (fs : List FieldDesc) (slots : List Val) (h : slots.length = fs.length) :
    (absSlots c fs slots).length = fs.length := by
  simp [absSlots, h]

theorem absSlots_clearGroup (c : Nat → Val → Val) (fs : List FieldDesc) (g : Nat) (slots : List Val) :
    absSlots c fs (clearGroup fs g slots) = clearGroup fs g (absSlots c fs slots) :=
  zip_map_clearGroup fs g (repSlot c) (fun _ hg => repSlot_oneof (FieldDesc.group?_eq_some.1 hg) .none) slots

theorem absSlots_set {c : Nat → Val → Val} {fs : List FieldDesc} {slots : List Val} {j : Nat} {v : Val} {f : FieldDesc}
    (hf : fs[j]? = some f) :
    absSlots c fs (slots.set j v) = (absSlots c fs slots).set j (repSlot c f v) :=
  zip_map_set (repSlot c) hf

theorem absSlots_getD {c : Nat → Val → Val} {fs : List FieldDesc} {slots : List Val} {j : Nat} {f : FieldDesc}
    (hf : fs[j]? = some f) (hl : slots.length = fs.length) :
    (absSlots c fs slots).getD j .none = repSlot c f (slots.getD j .none) :=
  getD_zip_map (repSlot c) hf (fun h => absurd (hl ▸ lt_of_getElem?_some hf) (Nat.not_lt.2 h))

theorem group_none_of_shape {f : FieldDesc} (h : ∀ g, f.shape ≠ .oneof g) : f.group? = none := by
  unfold FieldDesc.group?
  cases hs : f.shape <;> simp
  exact absurd hs (h _)

theorem applyFW_refines (S : Schema) (n i : Nat) (f : FieldDesc) (j : Nat) (slots : List Val)
    (u : Bytes) (hf : (S.msg i).fields[j]? = some f) {fw fw' : FW} (h : FWrel (repNorm S n) f fw fw') :
    (applyFW (S.msg i).fields f j slots u fw).2
      = (applyFW (S.msg i).fields f j (absSlots (repNorm S n) (S.msg i).fields slots) u fw').2 ∧
    repNorm S (n+1) i (applyFW (S.msg i).fields f j slots u fw).1
      = (applyFW (S.msg i).fields f j (absSlots (repNorm S n) (S.msg i).fields slots) u fw').1 := by
  cases fw <;> cases fw' <;> simp only [FWrel] at h
  · exact ⟨rfl, rfl⟩
  · subst h
    simp only [applyFW, repNorm_succ, absSlots_set hf, and_self]
  · subst h
    cases hs : f.shape with
    | oneof g =>
      simp only [applyFW, hs, repNorm_succ, true_and]
      rw [absSlots_set hf, absSlots_clearGroup, repSlot_oneof hs]
    | _ => simp only [applyFW, hs, repNorm_succ, and_self]

/-- `hmono`: the outcome does not activate a second member of a oneof -/
theorem applyFW_ok {S : Schema} {n i : Nat} {f : FieldDesc} {j : Nat} {slots : List Val} {u : Bytes}
    (hm : msgOK S false (n+1) i (.msg slots u) = true) (hf : (S.msg i).fields[j]? = some f) {fw : FW}
    (hok : FWok (msgOK S false n) f fw)
    (hmono : ∀ x, fw = .put x → f.isOneof = true → x.isNone = false → (slots.getD j .none).isNone = false) :
    msgOK S false (n+1) i (applyFW (S.msg i).fields f j slots u fw).1 = true := by
  obtain ⟨hlen, hall, hone⟩ := msgOK_msg_iff.1 hm
  have hjl : j < slots.length := hlen ▸ lt_of_getElem?_some hf
  cases fw with
  | panic => exact hm
  | put x =>
    exact msgOK_msg_iff.2 ⟨by rw [List.length_set]; exact hlen,
      forall_mem_zip_set (P := fun f v => slotOK (msgOK S false n) false f v = true) hf hok hall,
      oneofOK_set hf hjl
        (fun g hg => hmono x rfl (FieldDesc.isOneof_iff.2 ⟨g, FieldDesc.group?_eq_some.1 hg⟩)) hone⟩
  | putOne x =>
    cases hs : f.shape with
    | oneof g0 =>
      simp only [applyFW, hs]
      exact msgOK_msg_iff.2 ⟨by rw [List.length_set]; exact clearGroup_length _ _ _ hlen,
        forall_mem_zip_set (P := fun f v => slotOK (msgOK S false n) false f v = true) hf
          ((slotOK_oneof_iff hs).2 (.inr (.inl ⟨x, rfl, hok⟩)))
          (forall_mem_zip_clearGroup (P := fun f v => slotOK (msgOK S false n) false f v = true) _ g0
            (fun _ hg => (slotOK_oneof_iff (FieldDesc.group?_eq_some.1 hg)).2 (.inl rfl)) _ hall),
        oneofOK_clearGroup_set hf hjl hs hone⟩
    | singular => simpa [applyFW, hs] using hm
    | repeated p => simpa [applyFW, hs] using hm
    | map kk => simpa [applyFW, hs] using hm

end Pulsar
