/-
  Pulsar.Proofs.GoSrcBase — shared by the proofs that relate the functions translated from the Go source on every
  run (`Pulsar/ExtractedFns.lean`, namespace `Pulsar.Xf`, written by /verif/tools/go2lean) to the hand-written
  models. Straight-line functions are closed by procedures that do not follow the spelling of the source (`go_cases`,
  for `Add` followed by a pass that removes the wraps of what is in range; exhaustion over a finite range), so a
  rewrite that computes the same function still proves; loops need an induction each. One file per function group,
  so that a function the translator cannot handle takes only its own group out of the build.
-/
import Pulsar.GoSem
import Pulsar.Proofs.Wrap
import Pulsar.Proofs.Res
namespace Pulsar

/-- closes goals `translated = model` after unfolding: case split on every `if`, then arithmetic -/
macro "go_cases" : tactic => `(tactic| (repeat' split) <;> (try simp_all) <;> (try omega))

theorem getAt_of_lt {d : Bytes} {i : Nat} (h : i < d.length) : Go.getAt d (i : Int) = .ok d[i].toNat := by
  have : ¬ ((i : Int) < 0) := by omega
  simp [Go.getAt, this, h]

end Pulsar
