/-
  Pulsar.Proofs.ValDepth — elementary facts about `Val.depth` / `Val.depthList`, and `fuel_stable`: a
  fuel-indexed family that descends through slots only needs fuel ≥ depth. Then its instances for the typing
  predicates: a well-typed value is no deeper than its fuel, and `msgOK`, `utf8OK` only need fuel ≥ depth.
-/
import Pulsar.Proofs.Typing
namespace Pulsar

@[simp] theorem Val.depth_msg (s : List Val) (u : Bytes) : (Val.msg s u).depth = 1 + Val.depthList s := by
  simp [Val.depth]
@[simp] theorem Val.depth_list (nn : Bool) (e : List Val) : (Val.list nn e).depth = Val.depthList e := by
  simp [Val.depth]
@[simp] theorem Val.depth_map (nn : Bool) (e : List Val) : (Val.map nn e).depth = Val.depthList e := by
  simp [Val.depth]
@[simp] theorem Val.depth_entry (k v : Val) : (Val.entry k v).depth = max k.depth v.depth := by
  simp [Val.depth]
@[simp] theorem Val.depth_one (v : Val) : (Val.one v).depth = v.depth := by
  simp [Val.depth]
@[simp] theorem Val.depth_bits (n : Nat) : (Val.bits n).depth = 0 := by simp [Val.depth]
@[simp] theorem Val.depth_blob (nn : Bool) (b : Bytes) : (Val.blob nn b).depth = 0 := by simp [Val.depth]
@[simp] theorem Val.depth_none : Val.none.depth = 0 := by simp [Val.depth]
@[simp] theorem Val.depth_oneNil : Val.oneNil.depth = 0 := by simp [Val.depth]
@[simp] theorem Val.depthList_nil : Val.depthList [] = 0 := by simp [Val.depthList]
@[simp] theorem Val.depthList_cons (v : Val) (vs : List Val) :
    Val.depthList (v :: vs) = max v.depth (Val.depthList vs) := by simp [Val.depthList]

theorem Val.depth_le_depthList {x : Val} {l : List Val} (h : x ∈ l) : x.depth ≤ Val.depthList l := by
  induction l with
  | nil => cases h
  | cons a l ih =>
    simp only [Val.depthList_cons]
    rcases List.mem_cons.1 h with rfl | h
    · omega
    · have := ih h; omega

theorem Val.depthList_le {l : List Val} {n : Nat} (h : ∀ x ∈ l, x.depth ≤ n) : Val.depthList l ≤ n := by
  induction l with
  | nil => simp
  | cons a l ih =>
    simp only [Val.depthList_cons]
    have := h a List.mem_cons_self
    have := ih (fun x hx => h x (List.mem_cons_of_mem _ hx))
    omega

theorem Val.depthList_append (a b : List Val) :
    Val.depthList (a ++ b) = max (Val.depthList a) (Val.depthList b) := by
  induction a with
  | nil => simp
  | cons x a ih => simp only [List.cons_append, Val.depthList_cons, ih]; omega

theorem Val.depthList_elems_le (v : Val) : Val.depthList v.elems ≤ v.depth := by
  cases v <;> simp [Val.elems]

theorem Val.depth_elem_le {x v : Val} (h : x ∈ v.elems) : x.depth ≤ v.depth :=
  Nat.le_trans (Val.depth_le_depthList h) (Val.depthList_elems_le v)

theorem Val.depth_value_le (en : Val) : en.value.depth ≤ en.depth := by
  cases en <;> simp [Val.value]; omega

theorem Val.depth_key_le (en : Val) : en.key.depth ≤ en.depth := by
  cases en <;> simp [Val.key]; omega

theorem Val.depthList_slots_lt {v : Val} (h : v.slots ≠ []) : Val.depthList v.slots < v.depth := by
  cases v <;> simp_all [Val.slots]

theorem depthList_slots_le (m : Val) : 1 + Val.depthList m.slots ≤ max m.depth 1 := by
  cases m with
  | msg s u => simp only [Val.slots, Val.depth_msg]; omega
  | _ => simp only [Val.slots, Val.depthList_nil]; omega

theorem depth_slot_lt (m : Val) (j : Nat) : 1 + (m.slot j).depth ≤ max m.depth 1 := by
  have h1 := depthList_slots_le m
  unfold Val.slot
  rw [List.getD_eq_getElem?_getD]
  cases hj : m.slots[j]? with
  | none => simp only [Option.getD_none, Val.depth_none]; omega
  | some x =>
    simp only [Option.getD_some]
    have := Val.depth_le_depthList (List.mem_of_getElem? hj)
    omega

theorem Val.depth_slot_le (m : Val) (j : Nat) : (m.slot j).depth ≤ m.depth := by
  have := depth_slot_lt m j
  omega

theorem Val.depth_pos_of_msg (s : List Val) (u : Bytes) : 0 < (Val.msg s u).depth := by simp; omega

theorem depth_zero (f : FieldDesc) : f.zero.depth = 0 := by
  unfold FieldDesc.zero
  split <;> (try split) <;> simp

theorem depth_emptyMsg (S : Schema) (i : Nat) : (emptyMsg S i).depth = 1 := by
  simp only [emptyMsg, Val.depth_msg]
  have : Val.depthList ((S.msg i).fields.map FieldDesc.zero) ≤ 0 := by
    apply Val.depthList_le
    intro x hx
    obtain ⟨f, _, rfl⟩ := List.mem_map.1 hx
    rw [depth_zero]; omega
  omega

theorem all_congr_mem {α : Type} {l : List α} {p q : α → Bool} (h : ∀ a ∈ l, p a = q a) :
    l.all p = l.all q := by
  induction l with
  | nil => rfl
  | cons a l ih =>
    simp only [List.all_cons]
    rw [h a List.mem_cons_self, ih (fun x hx => h x (List.mem_cons_of_mem _ hx))]

theorem not_msg_of_depth_zero {v : Val} (h : v.depth = 0) : ∀ s u, v ≠ .msg s u := by
  rintro s u rfl
  exact absurd h (Nat.ne_of_gt (Val.depth_pos_of_msg s u))

/-- `d` is the family's value off messages, `hmsg` the congruence of one level -/
theorem fuel_stable {β : Type} (F : Nat → Nat → Val → β) (d : Nat → Val → β)
    (hnm : ∀ n i v, (∀ s u, v ≠ .msg s u) → F n i v = d i v)
    (hmsg : ∀ n m i slots u, (∀ j x, x.depth ≤ Val.depthList slots → F n j x = F m j x) →
      F (n+1) i (.msg slots u) = F (m+1) i (.msg slots u)) :
    ∀ (F1 F2 i : Nat) (v : Val), v.depth ≤ F1 → v.depth ≤ F2 → F F1 i v = F F2 i v := by
  intro F1
  induction F1 with
  | zero =>
    intro F2 i v h1 _
    have := not_msg_of_depth_zero (v := v) (by omega)
    rw [hnm 0 i v this, hnm F2 i v this]
  | succ F1 ih =>
    intro F2 i v h1 h2
    cases F2 with
    | zero =>
      have := not_msg_of_depth_zero (v := v) (by omega)
      rw [hnm _ i v this, hnm 0 i v this]
    | succ F2 =>
      cases v with
      | msg slots u =>
        simp only [Val.depth_msg] at h1 h2
        exact hmsg F1 F2 i slots u (fun j x hx => ih F2 j x (by omega) (by omega))
      | _ => rw [hnm _ i _ (by intro s u h; cases h), hnm _ i _ (by intro s u h; cases h)]

theorem scalarOK_depth {k : Kind} {v : Val} (h : scalarOK k v = true) : v.depth = 0 := by
  cases v <;> simp [scalarOK] at h <;> simp

theorem elemOK_depth {child : Nat → Val → Bool} {n : Nat} (hc : ∀ i v, child i v = true → v.depth ≤ n)
    {e : Elem} {b : Bool} {v : Val} (h : elemOK child e b v = true) : v.depth ≤ n := by
  cases e with
  | scalar k =>
    simp only [elemOK] at h
    rw [scalarOK_depth h]; omega
  | message i =>
    simp only [elemOK, Bool.or_eq_true, Bool.and_eq_true] at h
    rcases h with h | h
    · rw [isNone_eq_true h.1]; simp
    · exact hc i v h

theorem slotOK_depth {child : Nat → Val → Bool} {n : Nat} (hc : ∀ i v, child i v = true → v.depth ≤ n)
    {junk : Bool} {f : FieldDesc} {v : Val} (h : slotOK child junk f v = true) : v.depth ≤ n := by
  cases hs : f.shape with
  | singular => exact elemOK_depth hc ((slotOK_singular_iff hs).1 h)
  | repeated p =>
    obtain ⟨nn, es, rfl, hall⟩ := (slotOK_repeated_iff hs).1 h
    simp only [Val.depth_list]
    exact Val.depthList_le (fun x hx => elemOK_depth hc (hall x hx))
  | map kk =>
    obtain ⟨nn, es, rfl, hall, _⟩ := (slotOK_map_iff hs).1 h
    simp only [Val.depth_map]
    refine Val.depthList_le (fun x hx => ?_)
    obtain ⟨k, v, rfl, hk, hv⟩ := entryOK_iff.1 (hall x hx)
    have := elemOK_depth hc hv
    simp only [Val.depth_entry, scalarOK_depth hk]
    omega
  | oneof g =>
    rcases (slotOK_oneof_iff hs).1 h with rfl | ⟨x, rfl, hx⟩ | ⟨rfl, _⟩
    · simp
    · simp only [Val.depth_one]; exact elemOK_depth hc hx
    · simp

theorem msgOK_depth_le (S : Schema) {junk : Bool} :
    ∀ (n i : Nat) (v : Val), msgOK S junk n i v = true → v.depth ≤ n := by
  intro n
  induction n with
  | zero => intro i v h; simp [msgOK] at h
  | succ n ih =>
    intro i v h
    obtain ⟨slots, u, rfl⟩ := msgOK_isMsg h
    have hlen := msgOK_length h
    have hall := msgOK_slots h
    simp only [Val.depth_msg]
    have : Val.depthList slots ≤ n := by
      refine Val.depthList_le (fun x hx => ?_)
      obtain ⟨f, hf⟩ := exists_mem_zip_of_mem_right hlen hx
      exact slotOK_depth (fun j c hc => ih j c hc) (hall _ hf)
    omega

section
variable {c c' : Nat → Val → Bool} {m : Nat} (hc : ∀ i v, v.depth ≤ m → c i v = c' i v)
include hc

theorem elemOK_congr (e : Elem) (b : Bool) {v : Val} (hd : v.depth ≤ m) : elemOK c e b v = elemOK c' e b v := by
  cases e with
  | scalar k => rfl
  | message i => simp only [elemOK, hc i v hd]

theorem slotOK_congr (junk : Bool) (f : FieldDesc) {v : Val} (hd : v.depth ≤ m) :
    slotOK c junk f v = slotOK c' junk f v := by
  cases hs : f.shape with
  | singular =>
    simp only [slotOK, hs]
    exact elemOK_congr hc _ _ hd
  | repeated pk =>
    simp only [slotOK, hs]
    cases v <;> try rfl
    exact all_congr_mem (fun x hx => elemOK_congr hc _ _ (Nat.le_trans (Val.depth_le_depthList hx) (by simpa using hd)))
  | oneof g =>
    simp only [slotOK, hs]
    cases v <;> try rfl
    exact elemOK_congr hc _ _ (by simpa using hd)
  | map kk =>
    simp only [slotOK, hs]
    cases v <;> try rfl
    simp only []
    congr 1
    refine all_congr_mem (fun en hen => ?_)
    have hen : en.depth ≤ m := Nat.le_trans (Val.depth_le_depthList hen) (by simpa using hd)
    cases en <;> try rfl
    simp only [entryOK, elemOK_congr hc _ _ (Nat.le_trans (Nat.le_max_right _ _) (by simpa using hen))]

end

theorem msgOK_fuel (S : Schema) (junk : Bool) : ∀ (F1 F2 i : Nat) (v : Val), v.depth ≤ F1 → v.depth ≤ F2 →
    msgOK S junk F1 i v = msgOK S junk F2 i v :=
  fuel_stable (msgOK S junk) (fun _ _ => false)
    (fun n i v h => by cases n <;> cases v <;> first | rfl | exact absurd rfl (h _ _))
    (by
      intro n m i slots u ih
      simp only [msgOK, msgOKLvl]
      congr 2
      exact all_congr_mem (fun p hp => slotOK_congr (fun j x hx => ih j x hx) junk p.1
        (Val.depth_le_depthList (List.of_mem_zip hp).2)))

theorem msgOK_of_depth_le (S : Schema) {junk : Bool} (n m i : Nat) (v : Val) (h : msgOK S junk n i v = true)
    (hd : v.depth ≤ m) : msgOK S junk m i v = true :=
  msgOK_fuel S junk n m i v (msgOK_depth_le S n i v h) hd ▸ h

theorem utf8Elem_congr {c c' : Nat → Val → Bool} {m : Nat} (hc : ∀ i v, v.depth ≤ m → c i v = c' i v)
    (e : Elem) {v : Val} (hd : v.depth ≤ m) : utf8Elem c e v = utf8Elem c' e v := by
  cases e with
  | scalar k => cases k <;> rfl
  | message i => simp only [utf8Elem, hc i v hd]

theorem utf8Slot_congr {c c' : Nat → Val → Bool} {m : Nat} (hc : ∀ i v, v.depth ≤ m → c i v = c' i v)
    (f : FieldDesc) {v : Val} (hd : v.depth ≤ m) : utf8Slot c f v = utf8Slot c' f v := by
  unfold utf8Slot
  cases hs : f.shape with
  | singular => exact utf8Elem_congr hc f.elem hd
  | repeated p =>
    exact all_congr_mem (fun x hx => utf8Elem_congr hc f.elem (Nat.le_trans (Val.depth_elem_le hx) hd))
  | map kk =>
    refine all_congr_mem (fun en hen => ?_)
    have hvd : en.value.depth ≤ m :=
      Nat.le_trans (Val.depth_value_le en) (Nat.le_trans (Val.depth_elem_le hen) hd)
    simp only [utf8Elem_congr hc f.elem hvd]
  | oneof g =>
    cases v <;> try rfl
    exact utf8Elem_congr hc f.elem (by simpa using hd)

theorem utf8OK_not_msg (S : Schema) (F i : Nat) (v : Val) (h : ∀ s u, v ≠ .msg s u) :
    utf8OK S F i v = true := by
  cases F with
  | zero => rfl
  | succ F =>
    cases v <;> first
      | exact absurd rfl (h _ _)
      | simp [utf8OK, Val.slots]

theorem utf8OK_fuel (S : Schema) : ∀ (F1 F2 i : Nat) (v : Val), v.depth ≤ F1 → v.depth ≤ F2 →
    utf8OK S F1 i v = utf8OK S F2 i v :=
  fuel_stable (utf8OK S) (fun _ _ => true) (utf8OK_not_msg S) (by
    intro n m i slots u ih
    simp only [utf8OK, Val.slots_msg]
    refine all_congr_mem (fun p hp => ?_)
    exact utf8Slot_congr (fun j x hx => ih j x (Nat.le_trans hx (Val.depth_le_depthList (List.of_mem_zip hp).2)))
      p.1 (Nat.le_refl _))

end Pulsar
