/-
  Pulsar.Proofs.DecodeReaders — the primitive readers of the generated closure: their normal forms
  without the slice panic that the guards exclude, that they never panic, and that every successful
  read consumes input.
-/
import Pulsar.Typing
import Pulsar.Proofs.RuntimeSkip
import Pulsar.Proofs.Res
namespace Pulsar

theorem sliceTo_of_le {rest : Bytes} {n : Nat} (h : n ≤ rest.length) :
    sliceTo rest n = .ok (rest.take n) := by
  simp [sliceTo, h]

theorem sliceTo_ne_panic_of_le {rest : Bytes} {n : Nat} (h : n ≤ rest.length) :
    sliceTo rest n ≠ .panic := by
  simp [sliceTo, h]

/-! ## readVarint -/

theorem readVarint_skip {bs : Bytes} {v : Nat} {r : Bytes} (h : readVarint bs = .ok (v, r)) :
    skipReadVarint 0 0 bs = .ok (v, bs.length - r.length, r) ∧ r.length < bs.length := by
  unfold readVarint at h
  cases hs : skipReadVarint 0 0 bs with
  | ok a =>
    obtain ⟨v', n, r'⟩ := a
    rw [hs] at h
    cases h
    obtain ⟨hpos, hcnt, -, -⟩ := skipReadVarint_ok hs
    obtain rfl : n = bs.length - r.length := by omega
    exact ⟨rfl, by omega⟩
  | err e => rw [hs] at h; cases h
  | panic => rw [hs] at h; cases h

theorem readVarint_ne_panic (bs : Bytes) : readVarint bs ≠ .panic := by
  unfold readVarint
  have := skipReadVarint_out bs 0 0
  cases h : skipReadVarint 0 0 bs with
  | ok a => simp
  | err e => simp
  | panic => rw [h] at this; exact this.elim

theorem readVarint_length {bs : Bytes} {v : Nat} {r : Bytes} (h : readVarint bs = .ok (v, r)) :
    r.length < bs.length :=
  (readVarint_skip h).2

theorem readVarint_lt {bs : Bytes} {v : Nat} {r : Bytes} (h : readVarint bs = .ok (v, r)) :
    v < 18446744073709551616 :=
  (skipReadVarint_ok (readVarint_skip h).1).2.2.2

theorem readVarint_nil : readVarint [] = .err .eof := by
  simp [readVarint, skipReadVarint]

theorem consumeVarint_impl {bs : Bytes} {v : Nat} {r : Bytes}
    (h : consumeVarint bs = .ok (v, r)) : readVarint bs = .ok (v, r) := by
  simp [readVarint, (consumeVarint_skip h).1]

theorem readVarint_varint {x : Nat} (hx : x < 18446744073709551616) (rest : Bytes) :
    readVarint (varint x ++ rest) = .ok (x, rest) :=
  consumeVarint_impl (consumeVarint_varint hx rest)

/-! ## the guarded length prefix, readLenDelim -/

/-- a length prefix read into a Go `int` and checked (`< 0`, `postIndex > l`): `readLenDelim`, the packed branch
    and the map branch of `implKnownField` all start with it -/
def readLen (rest : Bytes) : Res (Nat × Bytes) :=
  readVarint rest >>= fun nr =>
    if nr.1 ≥ 9223372036854775808 then .err .invalidLength else if nr.1 > nr.2.length then .err .eof else .ok nr

theorem readLen_ne_panic (rest : Bytes) : readLen rest ≠ .panic :=
  Res.bind_ne_panic (readVarint_ne_panic rest) fun _ _ =>
    Res.ite_ne_panic (fun _ => by simp) fun _ => Res.ite_ne_panic (fun _ => by simp) fun _ => by simp

theorem readLen_eq_ok {rest : Bytes} {n : Nat} {r : Bytes} (h : readLen rest = .ok (n, r)) :
    n ≤ r.length ∧ r.length < rest.length ∧ n < 9223372036854775808 := by
  obtain ⟨⟨n0, r0⟩, hv, h⟩ := Res.bind_eq_ok.1 h
  dsimp only at h
  split at h
  · cases h
  · split at h
    · cases h
    · cases h
      exact ⟨by omega, readVarint_length hv, by omega⟩

theorem readLenDelim_eq (rest : Bytes) :
    readLenDelim rest = (readLen rest).mapR fun nr => (nr.2.take nr.1, nr.2.drop nr.1) := by
  unfold readLenDelim readLen
  rcases readVarint rest with ⟨⟨n, r⟩⟩ | e | _
  · simp only [Res.bind_ok]
    split
    · rfl
    · split
      · rfl
      · rename_i h1 h2
        rw [sliceTo_of_le (by omega)]
        rfl
  · rfl
  · rfl

theorem readLenDelim_ne_panic (rest : Bytes) : readLenDelim rest ≠ .panic := by
  rw [readLenDelim_eq]
  exact Res.mapR_ne_panic.2 (readLen_ne_panic rest)

theorem readLenDelim_length {rest p r : Bytes} (h : readLenDelim rest = .ok (p, r)) :
    p.length + r.length < rest.length := by
  rw [readLenDelim_eq] at h
  obtain ⟨⟨n, r0⟩, hn, h⟩ := Res.mapR_eq_ok.1 h
  cases h
  have := readLen_eq_ok hn
  simp only [List.length_take, List.length_drop]
  omega

theorem readLenDelim_varint (p rest : Bytes) (hp : p.length < 9223372036854775808) :
    readLenDelim (varint p.length ++ (p ++ rest)) = .ok (p, rest) := by
  have h1 : ¬ (p.length ≥ 9223372036854775808) := by omega
  have h2 : ¬ (p.length > (p ++ rest).length) := by simp
  rw [readLenDelim_eq, readLen, readVarint_varint (by omega)]
  simp only [Res.bind_ok, if_neg h1, if_neg h2, Res.mapR_ok, List.take_left', List.drop_left']

/-! ## readFixed -/

theorem readFixed_eq (w : Nat) (rest : Bytes) :
    readFixed w rest = if w > rest.length then .err .eof else .ok (ofLE (rest.take w), rest.drop w) := by
  unfold readFixed
  split
  · rfl
  · rw [sliceTo_of_le (by omega)]

theorem readFixed_ne_panic (w : Nat) (rest : Bytes) : readFixed w rest ≠ .panic := by
  rw [readFixed_eq]; split <;> simp

theorem readFixed_length {w : Nat} {rest : Bytes} {n : Nat} {r : Bytes} (h : readFixed w rest = .ok (n, r)) :
    r.length + w = rest.length := by
  rw [readFixed_eq] at h
  split at h
  · simp at h
  · simp only [Res.ok.injEq, Prod.mk.injEq] at h
    obtain ⟨_, rfl⟩ := h
    simp only [List.length_drop]; omega

/-! ## implReadScalar -/

/-- what `fieldItem` stores of the 64 bits a varint kind has accumulated: the truncation to the Go type -/
def Kind.ofVarint (k : Kind) (v : Nat) : Nat :=
  match k with
  | .int64 | .uint64 => v
  | .bool => if v != 0 then 1 else 0
  | .sint32 => unzigzag32 (v % 4294967296)
  | .sint64 => unzigzag64 v
  | _ => v % 4294967296

theorem implReadScalar_eq (k : Kind) (rest : Bytes) :
    implReadScalar k rest =
      if Extracted.wireType k = 1 then (readFixed 8 rest).mapFst .bits
      else if Extracted.wireType k = 5 then (readFixed 4 rest).mapFst .bits
      else if Extracted.wireType k = 2 then (readLenDelim rest).mapFst (.blob (k == .bytes))
      else (readVarint rest).mapFst fun v => .bits (k.ofVarint v) := by
  have fixed : ∀ w, (match readFixed w rest with
      | .ok (n, r) => Res.ok (Val.bits n, r) | .err e => .err e | .panic => .panic) =
      (readFixed w rest).mapFst .bits := by
    intro w
    rcases readFixed w rest with ⟨⟨n, r⟩⟩ | e | _ <;> rfl
  have blob : ∀ nn, (match readLenDelim rest with
      | .ok (p, r) => Res.ok (Val.blob nn p, r) | .err e => .err e | .panic => .panic) =
      (readLenDelim rest).mapFst (.blob nn) := by
    intro nn
    rcases readLenDelim rest with ⟨⟨p, r⟩⟩ | e | _ <;> rfl
  have varint : ∀ g : Nat → Nat, (match readVarint rest with
      | .ok (v, r) => Res.ok (Val.bits (g v), r) | .err e => .err e | .panic => .panic) =
      (readVarint rest).mapFst fun v => .bits (g v) := by
    intro g
    rcases readVarint rest with ⟨⟨v, r⟩⟩ | e | _ <;> rfl
  -- each `exact` evaluates the extracted table `Extracted.wireType k` in the `if`s of the right side: a regenerated
  -- table that disagrees with the model's `match` on kinds shows up here
  cases k
  case double => exact fixed 8
  case fixed64 => exact fixed 8
  case sfixed64 => exact fixed 8
  case float => exact fixed 4
  case fixed32 => exact fixed 4
  case sfixed32 => exact fixed 4
  case string => exact blob false
  case bytes => exact blob true
  case int32 => exact varint (Kind.ofVarint .int32)
  case int64 => exact varint (Kind.ofVarint .int64)
  case uint32 => exact varint (Kind.ofVarint .uint32)
  case uint64 => exact varint (Kind.ofVarint .uint64)
  case sint32 => exact varint (Kind.ofVarint .sint32)
  case sint64 => exact varint (Kind.ofVarint .sint64)
  case bool => exact varint (Kind.ofVarint .bool)
  case enum => exact varint (Kind.ofVarint .enum)

theorem implReadScalar_ne_panic (k : Kind) (rest : Bytes) : implReadScalar k rest ≠ .panic := by
  rw [implReadScalar_eq]
  exact Res.ite_ne_panic (fun _ => Res.mapR_ne_panic.2 (readFixed_ne_panic 8 rest)) fun _ =>
    Res.ite_ne_panic (fun _ => Res.mapR_ne_panic.2 (readFixed_ne_panic 4 rest)) fun _ =>
    Res.ite_ne_panic (fun _ => Res.mapR_ne_panic.2 (readLenDelim_ne_panic rest)) fun _ =>
    Res.mapR_ne_panic.2 (readVarint_ne_panic rest)

theorem implReadScalar_eq_ok {k : Kind} {rest : Bytes} {v : Val} {r : Bytes} (h : implReadScalar k rest = .ok (v, r)) :
    (∃ w n, 0 < w ∧ k.width = 8 * w ∧ readFixed w rest = .ok (n, r) ∧ v = .bits n) ∨
    (∃ p, k.isBlob = true ∧ readLenDelim rest = .ok (p, r) ∧ v = .blob (k == .bytes) p) ∨
    (∃ n, readVarint rest = .ok (n, r) ∧ v = .bits (k.ofVarint n)) := by
  rw [implReadScalar_eq] at h
  split at h
  · rename_i hw
    obtain ⟨n, hr, rfl⟩ := Res.mapFst_eq_ok.1 h
    exact .inl ⟨8, n, by decide, by cases k <;> first | rfl | exact absurd hw (by decide), hr, rfl⟩
  · split at h
    · rename_i hw
      obtain ⟨n, hr, rfl⟩ := Res.mapFst_eq_ok.1 h
      exact .inl ⟨4, n, by decide, by cases k <;> first | rfl | exact absurd hw (by decide), hr, rfl⟩
    · split at h
      · rename_i hw
        obtain ⟨p, hr, rfl⟩ := Res.mapFst_eq_ok.1 h
        exact .inr (.inl ⟨p, by cases k <;> first | rfl | exact absurd hw (by decide), hr, rfl⟩)
      · obtain ⟨n, hr, rfl⟩ := Res.mapFst_eq_ok.1 h
        exact .inr (.inr ⟨n, hr, rfl⟩)

theorem implReadScalar_length {k : Kind} {rest : Bytes} {v : Val} {r : Bytes}
    (h : implReadScalar k rest = .ok (v, r)) : r.length < rest.length := by
  rcases implReadScalar_eq_ok h with ⟨w, n, hw, _, hr, _⟩ | ⟨p, _, hr, _⟩ | ⟨n, hr, _⟩
  · have := readFixed_length hr
    omega
  · have := readLenDelim_length hr
    omega
  · exact readVarint_length hr

end Pulsar
