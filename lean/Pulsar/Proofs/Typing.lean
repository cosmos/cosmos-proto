/-
  Pulsar.Proofs.Typing — the typing predicates of Pulsar.Typing and the well-formedness predicates of
  Pulsar.Schema in the form proofs use them: inversion (for `slotOK` one lemma per shape), `oneofOK` as a count
  per group and under the writes to a slot, the empty message, and the normal form `repNorm` level by level.
-/
import Pulsar.Typing
import Pulsar.Proofs.Slots
namespace Pulsar

theorem isNone_eq_true {v : Val} (h : v.isNone = true) : v = .none := by
  cases v <;> first | rfl | cases h

/-! ### field shapes -/

theorem FieldDesc.isOneof_iff {f : FieldDesc} : f.isOneof = true ↔ ∃ g, f.shape = .oneof g := by
  unfold FieldDesc.isOneof; cases f.shape <;> simp

theorem FieldDesc.group?_eq_some {f : FieldDesc} {g : Nat} : f.group? = some g ↔ f.shape = .oneof g := by
  unfold FieldDesc.group?; cases f.shape <;> simp

theorem isOneof_eq_isSome (f : FieldDesc) : f.isOneof = f.group?.isSome := by
  unfold FieldDesc.isOneof FieldDesc.group?
  cases f.shape <;> rfl

theorem FieldDesc.zero_oneof {f : FieldDesc} {g : Nat} (hs : f.shape = .oneof g) : f.zero = .none := by
  cases he : f.elem <;> simp [FieldDesc.zero, hs, he]

/-! ### schema well-formedness -/

theorem FieldDesc.wf_num {n : Nat} {f : FieldDesc} (h : f.wf n = true) : f.num < 536870912 := by
  simp [FieldDesc.wf] at h; omega

theorem FieldDesc.wf_num_pos {n : Nat} {f : FieldDesc} (h : f.wf n = true) : 1 ≤ f.num := by
  simp [FieldDesc.wf] at h; omega

theorem FieldDesc.wf_elem {n : Nat} {f : FieldDesc} (h : f.wf n = true) :
    ∀ i, f.elem = .message i → i < n := by
  intro i hi
  simp [FieldDesc.wf, hi] at h; omega

theorem FieldDesc.wf_packed {n : Nat} {f : FieldDesc} (h : f.wf n = true) (hs : f.shape = .repeated true) :
    ∃ k, f.elem = .scalar k ∧ k.isBlob = false := by
  cases he : f.elem with
  | scalar k =>
    refine ⟨k, rfl, ?_⟩
    simp [FieldDesc.wf, hs, he, Kind.packable] at h
    exact h.2
  | message i => simp [FieldDesc.wf, hs, he] at h

theorem allDistinct_pairwise : ∀ (l : List Nat), allDistinct l = true → l.Pairwise (· ≠ ·)
  | [], _ => List.Pairwise.nil
  | x :: xs, h => by
    simp only [allDistinct, Bool.and_eq_true, Bool.not_eq_true'] at h
    refine List.pairwise_cons.2 ⟨?_, allDistinct_pairwise xs h.2⟩
    intro y hy hxy
    have : xs.contains x = true := List.contains_iff_mem.2 (hxy ▸ hy)
    rw [h.1] at this; cases this

theorem MsgDesc.wf_field {n : Nat} {m : MsgDesc} (h : m.wf n = true) {f : FieldDesc} (hf : f ∈ m.fields) :
    f.wf n = true := by
  simp only [MsgDesc.wf, Bool.and_eq_true, List.all_eq_true] at h
  exact h.1 f hf

theorem MsgDesc.wf_distinct {n : Nat} {m : MsgDesc} (h : m.wf n = true) :
    m.fields.Pairwise (fun a b => a.num ≠ b.num) := by
  simp only [MsgDesc.wf, Bool.and_eq_true] at h
  have := allDistinct_pairwise _ h.2
  rwa [List.pairwise_map] at this

/-- An index out of range names the empty message, which is well formed: no bound on `i` is needed here or in what
    rests on this. Statements that carry `i < S.msgs.length` all the same do not use it (`have _ := hi`). -/
theorem Schema.msg_wf {S : Schema} (hS : S.WF = true) (i : Nat) : (S.msg i).wf S.msgs.length = true := by
  unfold Schema.msg
  rw [List.getD_eq_getElem?_getD]
  cases h : S.msgs[i]? with
  | none => rfl
  | some m => exact List.all_eq_true.1 hS m (List.mem_of_getElem? h)

/-! ### scalars, elements, map entries -/

theorem scalarOK_bits {k : Kind} {v : Val} (h : scalarOK k v = true) (hk : k.isBlob = false) :
    ∃ n, v = .bits n ∧ (if k = .bool then n < 2 else n < 2 ^ k.width) := by
  cases v <;> simp [scalarOK, hk] at h
  case bits n =>
    refine ⟨n, rfl, ?_⟩
    by_cases hb : k = .bool
    · subst hb; simpa using h
    · simp only [hb, if_false]
      simpa [hb] using h

theorem scalarOK_blob {k : Kind} {v : Val} (h : scalarOK k v = true) (hk : k.isBlob = true) :
    ∃ nn b, v = .blob nn b := by
  cases v <;> simp [scalarOK, hk] at h
  exact ⟨_, _, rfl⟩

theorem elemOK_scalar (c : Nat → Val → Bool) (k : Kind) (nilOK : Bool) (v : Val) :
    elemOK c (.scalar k) nilOK v = scalarOK k v := rfl

theorem elemOK_message (c : Nat → Val → Bool) (i : Nat) (v : Val) :
    elemOK c (.message i) false v = c i v := by
  simp [elemOK]

theorem elemOK_weaken {child : Nat → Val → Bool} {e : Elem} {v : Val} (h : elemOK child e false v = true)
    (nilOK : Bool) : elemOK child e nilOK v = true := by
  cases nilOK
  · exact h
  · cases e <;> simp_all [elemOK]

theorem elemOK_of_not_none {child : Nat → Val → Bool} {e : Elem} {v : Val} (h : elemOK child e true v = true)
    (hn : v.isNone = false) : elemOK child e false v = true := by
  cases e <;> simp_all [elemOK]

theorem entryOK_iff {c : Nat → Val → Bool} {junk : Bool} {kk : Kind} {e : Elem} {en : Val} :
    entryOK c junk kk e en = true ↔
      ∃ k v, en = .entry k v ∧ scalarOK kk k = true ∧ elemOK c e junk v = true := by
  cases en with
  | entry k v =>
    simp only [entryOK, Bool.and_eq_true]
    exact ⟨fun h => ⟨k, v, rfl, h⟩, fun ⟨_, _, e, h⟩ => by cases e; exact h⟩
  | _ => simp [entryOK]

theorem entryOK_key {c : Nat → Val → Bool} {junk : Bool} {kk : Kind} {e : Elem} {en : Val}
    (h : entryOK c junk kk e en = true) : scalarOK kk en.key = true := by
  obtain ⟨k, v, rfl, hk, -⟩ := entryOK_iff.1 h
  exact hk

/-! ### slots, one inversion per shape -/

section slot
variable {c : Nat → Val → Bool} {junk : Bool} {f : FieldDesc} {v : Val}

theorem slotOK_singular_iff (hs : f.shape = .singular) :
    slotOK c junk f v = true ↔ elemOK c f.elem true v = true := by
  simp only [slotOK, hs]

theorem slotOK_oneof_iff {g : Nat} (hs : f.shape = .oneof g) :
    slotOK c junk f v = true ↔
      v = .none ∨ (∃ x, v = .one x ∧ elemOK c f.elem junk x = true) ∨ (v = .oneNil ∧ junk = true) := by
  simp only [slotOK, hs]
  cases v <;> simp

theorem slotOK_repeated_iff {pk : Bool} (hs : f.shape = .repeated pk) :
    slotOK c junk f v = true ↔ ∃ nn es, v = .list nn es ∧ ∀ x ∈ es, elemOK c f.elem junk x = true := by
  simp only [slotOK, hs]
  constructor
  · intro h
    cases v with
    | list nn es => exact ⟨nn, es, rfl, List.all_eq_true.1 h⟩
    | _ => cases h
  · rintro ⟨nn, es, rfl, h⟩
    exact List.all_eq_true.2 h

theorem slotOK_map_iff {kk : Kind} (hs : f.shape = .map kk) :
    slotOK c junk f v = true ↔
      ∃ nn es, v = .map nn es ∧ (∀ en ∈ es, entryOK c junk kk f.elem en = true) ∧ distinctKeys kk es = true := by
  simp only [slotOK, hs]
  constructor
  · intro h
    cases v with
    | map nn es =>
      simp only [Bool.and_eq_true, List.all_eq_true] at h
      exact ⟨nn, es, rfl, h⟩
    | _ => cases h
  · rintro ⟨nn, es, rfl, h⟩
    simp only [Bool.and_eq_true, List.all_eq_true]
    exact h

theorem slotOK_map_intro {kk : Kind} (hs : f.shape = .map kk) (nn : Bool) {es : List Val}
    (h1 : es.all (entryOK c junk kk f.elem) = true) (h2 : distinctKeys kk es = true) :
    slotOK c junk f (.map nn es) = true := by
  simp only [slotOK, hs, h1, h2, Bool.and_self]

theorem slotOK_oneof_junkfree {g : Nat} (hs : f.shape = .oneof g) (h : slotOK c false f v = true) :
    v = .none ∨ ∃ x, v = .one x ∧ elemOK c f.elem false x = true := by
  rcases (slotOK_oneof_iff hs).1 h with h | h | ⟨_, h⟩
  · exact .inl h
  · exact .inr h
  · cases h

end slot

/-! ### messages -/

theorem msgOKLvl_iff {S : Schema} {junk : Bool} {c : Nat → Val → Bool} {i : Nat} {v : Val} :
    msgOKLvl S junk c i v = true ↔
      ∃ slots u, v = .msg slots u ∧ slots.length = (S.msg i).fields.length ∧
        (∀ p ∈ (S.msg i).fields.zip slots, slotOK c junk p.1 p.2 = true) ∧
        oneofOK ((S.msg i).fields.zip slots) = true := by
  constructor
  · intro h
    cases v with
    | msg slots u =>
      simp only [msgOKLvl, Bool.and_eq_true, beq_iff_eq, List.all_eq_true] at h
      exact ⟨slots, u, rfl, h.1.1, h.1.2, h.2⟩
    | _ => cases h
  · rintro ⟨slots, u, rfl, h1, h2, h3⟩
    simp only [msgOKLvl, Bool.and_eq_true, beq_iff_eq, List.all_eq_true]
    exact ⟨⟨h1, h2⟩, h3⟩

theorem slotOK_getD {S : Schema} {junk : Bool} {c : Nat → Val → Bool} {i : Nat} {slots : List Val} {u : Bytes}
    {j : Nat} {f : FieldDesc} (hm : msgOKLvl S junk c i (.msg slots u) = true)
    (hf : (S.msg i).fields[j]? = some f) : slotOK c junk f (slots.getD j .none) = true := by
  obtain ⟨_, _, h, hlen, hall, -⟩ := msgOKLvl_iff.1 hm
  cases h
  exact forall_mem_zip_getD (P := fun f v => slotOK c junk f v = true) Val.none hf
    (fun h => absurd (hlen ▸ lt_of_getElem?_some hf) (Nat.not_lt.2 h)) hall

theorem msgOK_isMsg {S : Schema} {junk : Bool} {fuel i : Nat} {v : Val}
    (h : msgOK S junk fuel i v = true) : ∃ slots u, v = .msg slots u := by
  cases fuel with
  | zero => simp [msgOK] at h
  | succ fuel =>
    obtain ⟨slots, u, rfl, -⟩ := msgOKLvl_iff.1 h
    exact ⟨_, _, rfl⟩

theorem msgOK_msg_iff {S : Schema} {junk : Bool} {n i : Nat} {slots : List Val} {u : Bytes} :
    msgOK S junk (n+1) i (.msg slots u) = true ↔
      slots.length = (S.msg i).fields.length ∧
      (∀ p ∈ (S.msg i).fields.zip slots, slotOK (msgOK S junk n) junk p.1 p.2 = true) ∧
      oneofOK ((S.msg i).fields.zip slots) = true := by
  show msgOKLvl S junk (msgOK S junk n) i (.msg slots u) = true ↔ _
  rw [msgOKLvl_iff]
  constructor
  · rintro ⟨_, _, h, r⟩
    cases h
    exact r
  · exact fun r => ⟨_, _, rfl, r⟩

theorem msgOK_length {S : Schema} {junk : Bool} {n i : Nat} {slots : List Val} {u : Bytes}
    (h : msgOK S junk (n+1) i (.msg slots u) = true) : slots.length = (S.msg i).fields.length :=
  (msgOK_msg_iff.1 h).1

theorem msgOK_slots {S : Schema} {junk : Bool} {n i : Nat} {slots : List Val} {u : Bytes}
    (h : msgOK S junk (n+1) i (.msg slots u) = true) :
    ∀ p ∈ (S.msg i).fields.zip slots, slotOK (msgOK S junk n) junk p.1 p.2 = true :=
  (msgOK_msg_iff.1 h).2.1

theorem msgOK_oneofOK {S : Schema} {junk : Bool} {n i : Nat} {s : Val} (h : msgOK S junk n i s = true) :
    oneofOK ((S.msg i).fields.zip s.slots) = true := by
  obtain ⟨sl, u, rfl⟩ := msgOK_isMsg h
  cases n with
  | zero => simp [msgOK] at h
  | succ m => exact (msgOK_msg_iff.1 h).2.2

theorem msgOK_not_none {S : Schema} {junk : Bool} {fuel i : Nat} {v : Val}
    (h : msgOK S junk fuel i v = true) : v.isNone = false := by
  obtain ⟨s, u, rfl⟩ := msgOK_isMsg h; rfl

theorem oneofOK_le_one {fvs : List (FieldDesc × Val)} (h : oneofOK fvs = true) (g : Nat) :
    (fvs.filter (fun q => q.1.group? == some g && !q.2.isNone)).length ≤ 1 := by
  cases hl : fvs.filter (fun q => q.1.group? == some g && !q.2.isNone) with
  | nil => simp
  | cons q qs =>
    have hq : q ∈ fvs.filter (fun q => q.1.group? == some g && !q.2.isNone) := by
      rw [hl]; exact List.mem_cons_self
    rw [List.mem_filter] at hq
    obtain ⟨hq1, hq2⟩ := hq
    simp only [Bool.and_eq_true, beq_iff_eq, Bool.not_eq_true'] at hq2
    unfold oneofOK at h
    rw [List.all_eq_true] at h
    have := h q hq1
    rw [hq2.1] at this
    simp only [hq2.2, Bool.false_or, decide_eq_true_eq] at this
    rw [← hl]; exact this

/-- the filter in `oneofOK` -/
def isSetMember (g : Nat) (p : FieldDesc × Val) : Bool := p.1.group? == some g && !p.2.isNone

theorem oneofOK_iff (fvs : List (FieldDesc × Val)) :
    oneofOK fvs = true ↔ ∀ g, fvs.countP (isSetMember g) ≤ 1 := by
  simp only [List.countP_eq_length_filter]
  refine ⟨oneofOK_le_one, fun h => ?_⟩
  unfold oneofOK
  rw [List.all_eq_true]
  intro p _
  cases hg : p.1.group? with
  | none => rfl
  | some g =>
    simp only [Bool.or_eq_true, decide_eq_true_eq]
    exact Or.inr (h g)

section oneof
variable {fs : List FieldDesc} {slots : List Val} {j : Nat} {f : FieldDesc}

theorem oneofOK_set {x : Val} (hf : fs[j]? = some f) (hjl : j < slots.length)
    (hx : ∀ g, f.group? = some g → x.isNone = false → (slots.getD j .none).isNone = false)
    (hone : oneofOK (fs.zip slots) = true) : oneofOK (fs.zip (slots.set j x)) = true := by
  obtain ⟨hjz, hzj⟩ := List.getElem?_eq_some_iff.1 (getElem?_zip_getD Val.none fs slots j f hf hjl)
  rw [zip_set_right hf, oneofOK_iff]
  intro g
  have h2 := (oneofOK_iff _).1 hone g
  rw [List.countP_set hjz, hzj]
  by_cases hi : isSetMember g (f, x) = true
  · -- the stored value is a set member of `g`: so was the old one, by `hx`
    simp only [isSetMember, Bool.and_eq_true, beq_iff_eq, Bool.not_eq_true'] at hi
    have hv := hx g hi.1 hi.2
    simp only [isSetMember, hi.1, hi.2, hv, beq_self_eq_true, Bool.not_false, Bool.and_self, if_true]
    omega
  · have hi' : isSetMember g (f, x) = false := by simpa using hi
    simp only [hi', Bool.false_eq_true, if_false]
    omega

theorem oneofOK_clearGroup_set {g0 : Nat} {x : Val} (hf : fs[j]? = some f) (hjl : j < slots.length)
    (hs : f.shape = .oneof g0) (hone : oneofOK (fs.zip slots) = true) :
    oneofOK (fs.zip ((clearGroup fs g0 slots).set j x)) = true := by
  obtain ⟨hjz, hzj⟩ := List.getElem?_eq_some_iff.1 (getElem?_zip_getD Val.none fs slots j f hf hjl)
  have hg0 := FieldDesc.group?_eq_some.2 hs
  rw [zip_set_right hf, zip_clearGroup, oneofOK_iff]
  intro g
  have h2 := (oneofOK_iff _).1 hone g
  rw [List.countP_set (by rw [List.length_map]; exact hjz), List.countP_map]
  by_cases hg : g = g0
  · -- the group of `f`: every other member was unset
    subst hg
    have : (fs.zip slots).countP (isSetMember g ∘ fun p => (p.1, if p.1.group? == some g then Val.none else p.2))
        = 0 := by
      refine List.countP_eq_zero.2 (fun p _ => ?_)
      by_cases hp : p.1.group? = some g <;> simp [isSetMember, hp, Val.isNone]
    rw [this, Nat.zero_sub, Nat.zero_add]
    split <;> omega
  · -- another group: untouched, and `f` is no member of it
    have hne : ¬ g0 = g := fun h => hg h.symm
    have : (fs.zip slots).countP (isSetMember g ∘ fun p => (p.1, if p.1.group? == some g0 then Val.none else p.2))
        = (fs.zip slots).countP (isSetMember g) := by
      refine List.countP_congr (fun p _ => ?_)
      by_cases hp : p.1.group? = some g0 <;> simp [isSetMember, hp, hne]
    have hno : isSetMember g (f, x) = false := by simp [isSetMember, hg0, hne]
    simp only [this, hno, Bool.false_eq_true, if_false]
    omega

theorem oneofOK_other_none {k g : Nat} {fk : FieldDesc} (hone : oneofOK (fs.zip slots) = true)
    (hj : fs[j]? = some f) (hk : fs[k]? = some fk) (hfg : f.group? = some g) (hkg : fk.group? = some g)
    (hvn : (slots.getD j .none).isNone = false) (hkj : k ≠ j) : slots.getD k .none = .none := by
  cases hvk : (slots.getD k .none).isNone with
  | true => exact isNone_eq_true hvk
  | false =>
    exfalso
    have hlt : ∀ {i}, (slots.getD i .none).isNone = false → i < slots.length := fun h =>
      Nat.lt_of_not_le fun hle => by rw [List.getD_eq_getElem?_getD, List.getElem?_eq_none hle] at h; cases h
    have hmem : ∀ {h : FieldDesc} {v : Val}, h.group? = some g → v.isNone = false → isSetMember g (h, v) = true :=
      fun h1 h2 => by simp [isSetMember, h1, h2]
    obtain ⟨hjz, hzj⟩ := List.getElem?_eq_some_iff.1 (getElem?_zip_getD Val.none fs slots j f hj (hlt hvn))
    -- unsetting slot `j` removes one set member of `g` and leaves slot `k`, another one
    have h2 := List.countP_set (p := isSetMember g) (a := (f, Val.none)) hjz
    have h3 : 0 < ((fs.zip slots).set j (f, Val.none)).countP (isSetMember g) := by
      rw [List.countP_pos_iff]
      refine ⟨(fk, slots.getD k .none), List.mem_of_getElem? (i := k) ?_, hmem hkg hvk⟩
      rw [List.getElem?_set_ne (Ne.symm hkj)]
      exact getElem?_zip_getD Val.none fs slots k fk hk (hlt hvk)
    have e2 : isSetMember g (f, Val.none) = false := by simp [isSetMember, Val.isNone]
    simp only [hzj, hmem hfg hvn, e2, if_true, Bool.false_eq_true, if_false] at h2
    have := (oneofOK_iff _).1 hone g
    omega

end oneof

/-! ### the empty message is well typed -/

theorem slotOK_zero (child : Nat → Val → Bool) (junk : Bool) (f : FieldDesc) : slotOK child junk f f.zero = true := by
  unfold slotOK FieldDesc.zero
  cases f.shape <;> cases f.elem <;> try rfl
  rename_i k
  simp only [elemOK]
  cases h : k.isBlob <;> simp [scalarOK, h, Nat.two_pow_pos]

theorem oneofOK_zero (fs : List FieldDesc) : oneofOK (fs.zip (fs.map FieldDesc.zero)) = true := by
  unfold oneofOK
  rw [List.all_eq_true]
  intro p hp
  have := mem_zip_map_zero hp
  cases hg : p.1.group? with
  | none => rfl
  | some g => simp [this, FieldDesc.zero_oneof (FieldDesc.group?_eq_some.1 hg), Val.isNone]

theorem msgOK_emptyMsg (S : Schema) (junk : Bool) (n i : Nat) : msgOK S junk (n+1) i (emptyMsg S i) = true := by
  simp only [msgOK, msgOKLvl, emptyMsg, List.length_map, beq_self_eq_true, Bool.true_and, Bool.and_eq_true]
  exact ⟨all_zip_zero (fun f v => slotOK (msgOK S junk n) junk f v) (slotOK_zero _ _) _, oneofOK_zero _⟩

/-! ### `utf8OK` on unset slots and on the empty message -/

unseal utf8Valid in
theorem utf8Valid_nil : utf8Valid [] = true := rfl

theorem utf8Slot_none (U : Nat → Val → Bool) (f : FieldDesc) : utf8Slot U f .none = true := by
  unfold utf8Slot
  cases f.shape <;> simp only [Val.elems, List.all_nil]
  cases he : f.elem with
  | scalar k => cases k <;> first | rfl | exact utf8Valid_nil
  | message i => rfl

theorem utf8Slot_zero (U : Nat → Val → Bool) (f : FieldDesc) : utf8Slot U f f.zero = true := by
  unfold utf8Slot FieldDesc.zero
  cases f.shape <;> cases he : f.elem <;> simp [utf8Elem, Val.isNone, Val.elems]
  rename_i k
  cases k <;> simp [Kind.isBlob, Val.getBlob, utf8Valid_nil]

theorem utf8OK_emptyMsg (S : Schema) (n i : Nat) : utf8OK S n i (emptyMsg S i) = true := by
  cases n with
  | zero => rfl
  | succ n => exact all_zip_zero (fun f v => utf8Slot (utf8OK S n) f v) (utf8Slot_zero _) _

/-! ### `repNorm`: its equations, and what the normal form leaves alone -/

theorem repScalar_getBits (rn : Nat → Val → Val) (k : Kind) (v : Val) :
    (repElem rn (.scalar k) v).getBits = v.getBits := by
  cases v <;> rfl

theorem repScalar_getBlob (rn : Nat → Val → Val) (k : Kind) (v : Val) :
    (repElem rn (.scalar k) v).getBlob = v.getBlob := by
  cases v <;> rfl

theorem scalarOK_rep (rn : Nat → Val → Val) (k k' : Kind) (v : Val) :
    scalarOK k (repElem rn (.scalar k') v) = scalarOK k v := by
  cases v <;> rfl

theorem keyLt_congr (kk : Kind) {a a' b b' : Val} (ha1 : a'.getBits = a.getBits) (ha2 : a'.getBlob = a.getBlob)
    (hb1 : b'.getBits = b.getBits) (hb2 : b'.getBlob = b.getBlob) : keyLt kk a' b' = keyLt kk a b := by
  cases kk <;> simp [keyLt, ha1, ha2, hb1, hb2]

theorem kbeqOf_congr (kk : Kind) {a a' b b' : Val} (ha1 : a'.getBits = a.getBits) (ha2 : a'.getBlob = a.getBlob)
    (hb1 : b'.getBits = b.getBits) (hb2 : b'.getBlob = b.getBlob) : kbeqOf kk a' b' = kbeqOf kk a b := by
  simp [kbeqOf, ha1, ha2, hb1, hb2]

theorem repNorm_isNone (S : Schema) (fuel i : Nat) (v : Val) : (repNorm S fuel i v).isNone = v.isNone := by
  cases fuel with
  | zero => rfl
  | succ n => cases v <;> rfl

theorem repNorm_none (S : Schema) (fuel i : Nat) : repNorm S fuel i .none = .none := by
  cases fuel <;> rfl

theorem repNorm_msg (S : Schema) (fuel i : Nat) (s : List Val) (u : Bytes) :
    ∃ s', repNorm S fuel i (.msg s u) = .msg s' u := by
  cases fuel with
  | zero => exact ⟨s, rfl⟩
  | succ n => exact ⟨_, rfl⟩

/-- `repNorm` on the slot list, with the child abstraction as a parameter -/
def absSlots (c : Nat → Val → Val) (fs : List FieldDesc) (slots : List Val) : List Val :=
  (fs.zip slots).map (fun p => repSlot c p.1 p.2)

theorem repNorm_succ (S : Schema) (n i : Nat) (slots : List Val) (u : Bytes) :
    repNorm S (n+1) i (.msg slots u) = .msg (absSlots (repNorm S n) (S.msg i).fields slots) u := rfl

theorem repSlot_isNone {rn : Nat → Val → Val} (f : FieldDesc) (v : Val) (h : f.isOneof = true) :
    (repSlot rn f v).isNone = v.isNone := by
  obtain ⟨g, hs⟩ := FieldDesc.isOneof_iff.1 h
  simp only [repSlot, hs]
  cases v <;> rfl

/-- the entry normaliser of `repSlot` -/
def normEntry (c : Nat → Val → Val) (kk : Kind) (e : Elem) (en : Val) : Val :=
  .entry (repElem c (.scalar kk) en.key) (repElem c e en.value)

theorem normEntry_key (c : Nat → Val → Val) (kk : Kind) (e : Elem) (en : Val) :
    (normEntry c kk e en).key = repElem c (.scalar kk) en.key := rfl

theorem normEntry_value (c : Nat → Val → Val) (kk : Kind) (e : Elem) (en : Val) :
    (normEntry c kk e en).value = repElem c e en.value := rfl

theorem repSlot_map {c : Nat → Val → Val} {f : FieldDesc} {kk : Kind} (h : f.shape = .map kk) (v : Val) :
    repSlot c f v = .map false (sortEntries kk (v.elems.map (normEntry c kk f.elem))) := by
  simp only [repSlot, h]; rfl

theorem repSlot_repeated {c : Nat → Val → Val} {f : FieldDesc} {p : Bool} (h : f.shape = .repeated p) (v : Val) :
    repSlot c f v = .list false (v.elems.map (repElem c f.elem)) := by
  simp only [repSlot, h]

theorem repSlot_singular {c : Nat → Val → Val} {f : FieldDesc} (h : f.shape = .singular) (v : Val) :
    repSlot c f v = repElem c f.elem v := by
  simp only [repSlot, h]

theorem repSlot_oneof {c : Nat → Val → Val} {f : FieldDesc} {g : Nat} (h : f.shape = .oneof g) (v : Val) :
    repSlot c f v = (match v with | .one x => .one (repElem c f.elem x) | x => x) := by
  simp only [repSlot, h]; cases v <;> rfl

end Pulsar
