/-
  Predicates "for every message of the generated tree". A per-kind scalar predicate `sp` and a per-message
  predicate `mp` are lifted to messages (`spOK`, of the same shape as `utf8OK` and `everywhere`); `setFields`
  establishes `spOK` when every generated scalar satisfies `sp` (`SpGen`) and one call establishes `mp` for the
  message it fills (`MpStep`). Everything is stated for an arbitrary assumption `p` on the consumed draws.
-/
import Pulsar.Proofs.RapidSlot
namespace Pulsar.Rapidproto

def spElem (sp : Kind → Val → Bool) (child : Nat → Val → Bool) (e : Elem) (v : Val) : Bool :=
  match e with
  | .scalar k => sp k v
  | .message i => v.isNone || child i v

def spEntry (sp : Kind → Val → Bool) (child : Nat → Val → Bool) (kk : Kind) (e : Elem) (en : Val) : Bool :=
  sp kk en.key && spElem sp child e en.value

def spSlot (sp : Kind → Val → Bool) (child : Nat → Val → Bool) (f : FieldDesc) (v : Val) : Bool :=
  match f.shape with
  | .singular => spElem sp child f.elem v
  | .repeated _ => v.elems.all (spElem sp child f.elem)
  | .map kk => v.elems.all (spEntry sp child kk f.elem)
  | .oneof _ => (match v with | .one x => spElem sp child f.elem x | _ => true)

/-- as `spSlot`, but nothing is asked of a singular scalar field: it is always overwritten -/
def spSlot0 (sp : Kind → Val → Bool) (child : Nat → Val → Bool) (f : FieldDesc) (v : Val) : Bool :=
  match f.shape, f.elem with
  | .singular, .scalar _ => true
  | _, _ => spSlot sp child f v

/-- `mp depth i m`: a per-message predicate (depth of the message in the tree, its type, the message) -/
def spOK (sp : Kind → Val → Bool) (mp : Nat → Nat → Val → Bool) (S : Schema) : Nat → Nat → Nat → Val → Bool
  | 0, _, _, _ => true
  | fuel+1, d, i, v =>
    mp d i v && ((S.msg i).fields.zip v.slots).all (fun p => spSlot sp (spOK sp mp S fuel (d+1)) p.1 p.2)

/-- what the message `setFields` starts from satisfies: `mp0` (what an empty message satisfies) for the message
    itself, `spOK` for everything below -/
def spPre (sp : Kind → Val → Bool) (mp0 mp : Nat → Nat → Val → Bool) (S : Schema) : Nat → Nat → Nat → Val → Bool
  | 0, _, _, _ => true
  | fuel+1, d, i, v =>
    mp0 d i v && ((S.msg i).fields.zip v.slots).all (fun p => spSlot sp (spOK sp mp S fuel (d+1)) p.1 p.2)

/-- what is asked of the two per-message predicates: `mp0` is the weaker one, and holds of what a child may be
    handed that was never filled (a new empty message, a nil value) -/
structure MpOK (S : Schema) (mp0 mp : Nat → Nat → Val → Bool) : Prop where
  weaken : ∀ d i v, mp d i v = true → mp0 d i v = true
  empty : ∀ d i, mp0 d i (emptyMsg S i) = true
  /-- `spElem` admits `v.isNone` at a message position: for all `spOK` tells, the oneof member or map value a child
      is handed may be `.none` (`rp_C0_of_elem`) -/
  none : ∀ d i, mp0 d i Val.none = true

def SpZero (sp : Kind → Val → Bool) : Prop := ∀ k, sp k (if k.isBlob then .blob false [] else .bits 0) = true

theorem rp_spElem_scalar (sp : Kind → Val → Bool) (c : Nat → Val → Bool) (k : Kind) :
    spElem sp c (.scalar k) = sp k := rfl

theorem rp_spEntry_eq (sp : Kind → Val → Bool) (c : Nat → Val → Bool) (kk : Kind) (e : Elem) :
    spEntry sp c kk e = fun en => sp kk en.key && spElem sp c e en.value := rfl

theorem rp_spSlot_zero {sp : Kind → Val → Bool} (hz : SpZero sp) (child : Nat → Val → Bool) (f : FieldDesc) :
    spSlot sp child f f.zero = true := by
  unfold spSlot FieldDesc.zero
  cases hs : f.shape <;> cases he : f.elem <;> simp [spElem, Val.elems, Val.isNone]
  exact hz _

theorem rp_spSlot_none (sp : Kind → Val → Bool) (c : Nat → Val → Bool) (f : FieldDesc)
    (h : ∃ g, f.group? = some g) : spSlot sp c f .none = true := by
  obtain ⟨g, hg⟩ := h
  simp [spSlot, FieldDesc.group?_eq_some.1 hg]

theorem rp_spSlot0_of_spSlot {sp : Kind → Val → Bool} {c : Nat → Val → Bool} {f : FieldDesc} {x : Val}
    (h : spSlot sp c f x = true) : spSlot0 sp c f x = true := by
  unfold spSlot0
  split
  · rfl
  · exact h

theorem rp_spPre_emptyMsg {sp : Kind → Val → Bool} {mp0 mp : Nat → Nat → Val → Bool} (hz : SpZero sp) (S : Schema)
    (hm : ∀ d i, mp0 d i (emptyMsg S i) = true) (n d i : Nat) : spPre sp mp0 mp S n d i (emptyMsg S i) = true := by
  cases n with
  | zero => rfl
  | succ n =>
    simp only [spPre, hm d i, Bool.true_and]
    simp only [emptyMsg, Val.slots]
    exact all_zip_zero (fun f v => spSlot sp (spOK sp mp S n (d+1)) f v) (rp_spSlot_zero hz _) _

theorem rp_spOK_emptyMsg {sp : Kind → Val → Bool} {mp : Nat → Nat → Val → Bool} (hz : SpZero sp) (S : Schema)
    (hm : ∀ d i, mp d i (emptyMsg S i) = true) (n d i : Nat) : spOK sp mp S n d i (emptyMsg S i) = true := by
  cases n with
  | zero => rfl
  | succ n => exact rp_spPre_emptyMsg (mp0 := mp) hz S hm (n+1) d i

theorem rp_spPre_none {sp : Kind → Val → Bool} {mp0 mp : Nat → Nat → Val → Bool} (S : Schema)
    (hm : MpOK S mp0 mp) (n d i : Nat) : spPre sp mp0 mp S n d i .none = true := by
  cases n <;> simp [spPre, Val.slots, hm.none d i]

theorem rp_spPre_of_spOK {sp : Kind → Val → Bool} {mp0 mp : Nat → Nat → Val → Bool} (S : Schema)
    (hm : MpOK S mp0 mp) {n d i : Nat} {v : Val} (h : spOK sp mp S n d i v = true) :
    spPre sp mp0 mp S n d i v = true := by
  cases n with
  | zero => rfl
  | succ n =>
    simp only [spOK, spPre, Bool.and_eq_true] at h ⊢
    exact ⟨hm.weaken _ _ _ h.1, h.2⟩

def SpGen (p : Ev → Bool) (sp : Kind → Val → Bool) (o : GenOpts) (E : List Int) : Prop :=
  ∀ k ds, Post p (genScalar o E k ds) (fun v => sp k v = true)

/-- what `rp_sp_genSlot` needs to know of the child (`setFields` one level down) -/
structure ChildP (p : Ev → Bool) (S : Schema) (C0 C : Nat → Val → Bool)
    (child : Nat → Val → List Draw → R (Bool × Val)) : Prop where
  run : ∀ mi v ds, C0 mi v = true → Post p (child mi v ds) (fun r => C mi r.2 = true)
  empty : ∀ mi, C0 mi (emptyMsg S mi) = true
  none : ∀ mi, C0 mi .none = true
  weaken : ∀ mi v, C mi v = true → C0 mi v = true

section
variable {p : Ev → Bool} {sp : Kind → Val → Bool} {E : List Int} {o : GenOpts} {S : Schema}
  {C0 C : Nat → Val → Bool} {child : Nat → Val → List Draw → R (Bool × Val)}

theorem rp_C0_of_elem (hc : ChildP p S C0 C child) {mi : Nat} {v : Val}
    (h : spElem sp C (.message mi) v = true) : C0 mi v = true := by
  simp only [spElem, Bool.or_eq_true] at h
  rcases h with h | h
  · cases v <;> simp [Val.isNone] at h
    exact hc.none mi
  · exact hc.weaken mi v h

theorem rp_sp_genSlot (hg : SpGen p sp o E) (hc : ChildP p S C0 C child) (f : FieldDesc) (cur : Val)
    (ds : List Draw) :
    Post p (genSlot S o E child f cur ds) (fun x => spSlot0 sp C f cur = true → spSlot sp C f x = true) := by
  refine Post.imp (fun h0 => ?_)
  unfold genSlot
  unfold spSlot0 at h0
  have hmsg : ∀ {mi : Nat} {r : Bool × Val}, C mi r.2 = true → spElem sp C (.message mi) r.2 = true :=
    fun hr => by simp [spElem, hr]
  cases hs : f.shape <;> cases he : f.elem <;> simp only [hs, he, spSlot] at h0 ⊢
  -- singular scalar
  · exact hg _ ds
  -- singular message
  · refine ((hc.run _ _ ds ?_).mono (fun r hr => ?_)).map
    · split
      · exact hc.empty _
      · exact rp_C0_of_elem (sp := sp) hc h0
    · split
      · exact hmsg hr
      · rfl
  -- repeated scalar
  · exact (Post.any _).bind (fun c rest _ => (rp_inv_listScalars (sp := fun v => sp _ v = true) (hg _)
      (fun _ es => es.all (spElem sp C (.scalar _)) = true) (fun _ _ _ h hv => all_append_one _ h hv)
      _ _ rest h0).map)
  -- repeated message
  · exact (Post.any _).bind (fun c rest _ => (rp_inv_listMsgs (C := fun r => C _ r.2 = true)
      (fun ds => hc.run _ _ ds (hc.empty _)) (fun _ es => es.all (spElem sp C (.message _)) = true)
      (fun _ _ _ h hr _ => all_append_one _ h (hmsg hr))
      (fun _ _ _ i h hr _ => all_take _ _ i (all_append_one _ h (hmsg hr))) _ 0 _ rest h0).map)
  -- oneof scalar
  · exact ((hg _ ds).mono (fun v hv => hv)).map
  -- oneof message
  · refine ((hc.run _ _ ds ?_).mono (fun r hr => ?_)).map
    · split
      · exact rp_C0_of_elem (sp := sp) hc h0
      · exact hc.empty _
    · cases r.1
      · rfl
      · exact hmsg hr
  -- map scalar
  · exact (Post.any _).bind (fun c rest _ => (rp_inv_mapScalars (spk := fun k => sp _ k = true)
      (spv := fun v => sp _ v = true) (hg _) (hg _) (fun es => es.all (spEntry sp C _ (.scalar _)) = true)
      (fun _ k v h hk hv => rp_all_put _ k v h (by simp [spEntry, spElem, Val.key, Val.value, hk, hv]))
      _ _ rest h0).map)
  -- map message
  · refine (Post.any _).bind (fun c rest _ => (rp_inv_mapMsgs (spk := fun k => sp _ k = true)
      (C0 := fun v => C0 _ v = true) (C := fun v => C _ v = true) (hg _) (hc.run _)
      (fun es => es.all (spEntry sp C _ (.message _)) = true) (fun es k h => ?_)
      (fun _ k v h hk hv => rp_all_put _ k v h (by simp [spEntry, spElem, Val.key, Val.value, hk, hv]))
      (fun _ k h => all_filter _ _ h) _ _ rest h0).map)
    -- the value `m.Mutable(key)` returns: a new empty message, or the stored value
    cases hf : findEntry _ es k with
    | none => exact hc.empty _
    | some en =>
      have := List.all_eq_true.1 h en (List.mem_of_find?_eq_some hf)
      simp only [spEntry, Bool.and_eq_true] at this
      exact rp_C0_of_elem hc this.2
end

def MpStep (p : Ev → Bool) (S : Schema) (o : GenOpts) (E : List Int) (mp0 mp : Nat → Nat → Val → Bool) : Prop :=
  ∀ fuel depth i v ds, mp0 depth i v = true →
    Post p (setFields S o E fuel depth i v ds) (fun r => mp depth i r.2 = true)

theorem rp_sp_setFields {p : Ev → Bool} {sp : Kind → Val → Bool} {mp0 mp : Nat → Nat → Val → Bool} {E : List Int}
    {o : GenOpts} (hg : SpGen p sp o E) (hz : SpZero sp) (S : Schema) (hm : MpOK S mp0 mp)
    (hstep : MpStep p S o E mp0 mp) : ∀ (N fuel depth i : Nat) (v : Val) (ds : List Draw),
    spPre sp mp0 mp S N depth i v = true →
    Post p (setFields S o E fuel depth i v ds) (fun r => spOK sp mp S N depth i r.2 = true)
  | 0, _, _, _, _, _, _ => fun _ _ _ _ _ => rfl
  | n+1, fuel, depth, i, v, ds, hv => by
    simp only [spPre, Bool.and_eq_true] at hv
    have hc : ChildP p S (spPre sp mp0 mp S n (depth+1)) (spOK sp mp S n (depth+1))
        (setFields S o E (fuel - 1) (depth+1)) :=
      ⟨fun mi c ds' => rp_sp_setFields hg hz S hm hstep n (fuel - 1) (depth+1) mi c ds',
       fun mi => rp_spPre_emptyMsg hz S hm.empty n _ mi, fun mi => rp_spPre_none S hm n _ mi,
       fun mi c => rp_spPre_of_spOK S hm⟩
    -- `mp` for the message itself; its slots: from the loop within the limit, unchanged beyond it
    refine ((hstep fuel depth i v ds hv.1).and ((rp_slots_setFields S o E _ _ fuel depth i v ds
      (fun _ _ h => h) (fun f hf => rp_spSlot_none _ _ f hf) (fun _ _ _ _ h => h)
      (fun f cur ds' => (rp_sp_genSlot hg hc f cur ds').mono (fun x hx h => hx (rp_spSlot0_of_spSlot h))) hv.2).and
      (Post.of_all (rp_setFields_out S o E fuel depth i v ds)))).mono (fun r h => ?_)
    obtain ⟨hmp, hslots, -, -, -, hbeyond⟩ := h
    simp only [spOK, Bool.and_eq_true]
    refine ⟨hmp, ?_⟩
    cases hr : r.1
    · rw [hbeyond hr]
      exact hv.2
    · exact hslots hr

/-! ### `everywhere` is the generic predicate with a trivial scalar part -/

def spTrue (_ : Kind) (_ : Val) : Bool := true

theorem rp_spTrue_SpZero : SpZero spTrue := fun _ => rfl

theorem rp_spTrue_SpGen {p : Ev → Bool} (o : GenOpts) (E : List Int) : SpGen p spTrue o E :=
  fun _ _ => (Post.any _).mono (fun _ _ => rfl)

theorem rp_evElem_eq (child : Nat → Val → Bool) (e : Elem) : evElem child e = spElem spTrue child e := by
  funext v
  cases e <;> rfl

theorem rp_evSlot_eq (child : Nat → Val → Bool) (f : FieldDesc) (v : Val) :
    evSlot child f v = spSlot spTrue child f v := by
  unfold evSlot spSlot
  simp only [rp_evElem_eq, rp_spEntry_eq, spTrue, Bool.true_and]
  -- both sides are the same `match`es, of two different definitions
  cases f.shape <;> first | rfl | (cases v <;> rfl)

theorem rp_everywhere_eq (mp : Nat → Nat → Val → Bool) (S : Schema) : ∀ (n d i : Nat) (v : Val),
    everywhere mp S n d i v = spOK spTrue mp S n d i v
  | 0, _, _, _ => rfl
  | n+1, d, i, v => by
    have : everywhere mp S n (d+1) = spOK spTrue mp S n (d+1) := by
      funext i v; exact rp_everywhere_eq mp S n (d+1) i v
    simp only [everywhere, spOK, this, rp_evSlot_eq]

theorem rp_everywhere_setFields {p : Ev → Bool} {mp0 mp : Nat → Nat → Val → Bool} (S : Schema) (o : GenOpts)
    (E : List Int) (hm : MpOK S mp0 mp) (hstep : MpStep p S o E mp0 mp) (fuel N depth i : Nat) (v : Val)
    (ds : List Draw) (hv : v = emptyMsg S i ∨ everywhere mp S N depth i v = true) :
    Post p (setFields S o E fuel depth i v ds) (fun r => everywhere mp S N depth i r.2 = true) := by
  simp only [rp_everywhere_eq] at hv ⊢
  refine rp_sp_setFields (rp_spTrue_SpGen o E) rp_spTrue_SpZero S hm hstep N fuel depth i v ds ?_
  rcases hv with rfl | hv
  · exact rp_spPre_emptyMsg rp_spTrue_SpZero S hm.empty _ _ i
  · exact rp_spPre_of_spOK S hm hv

def mpTrue (_ _ : Nat) (_ : Val) : Bool := true

theorem rp_mpTrue_any_ok (S : Schema) (mp : Nat → Nat → Val → Bool) : MpOK S mpTrue mp :=
  ⟨fun _ _ _ _ => rfl, fun _ _ => rfl, fun _ _ => rfl⟩

theorem rp_sp_setFields_scalar {p : Ev → Bool} {sp : Kind → Val → Bool} {E : List Int} {o : GenOpts}
    (hg : SpGen p sp o E) (hz : SpZero sp) (S : Schema) (N fuel depth i : Nat) (v : Val) (ds : List Draw)
    (hv : spOK sp mpTrue S N depth i v = true) :
    Post p (setFields S o E fuel depth i v ds) (fun r => spOK sp mpTrue S N depth i r.2 = true) :=
  rp_sp_setFields hg hz S (rp_mpTrue_any_ok S _) (fun _ _ _ _ _ _ => (Post.any _).mono (fun _ _ => rfl))
    N fuel depth i v ds (rp_spPre_of_spOK S (rp_mpTrue_any_ok S _) hv)

end Pulsar.Rapidproto
