/-
  Pulsar.Proofs.Res — the three outcomes of a Go call as a monad. The model writes every call out as a
  three-way `match` that passes `.err` and `.panic` on; that is `>>=`, or `mapR` when the continuation
  cannot fail. Here are the rules by which "returns `a`", "does not panic", "what each outcome satisfies"
  and "two runs correspond" pass through `>>=`, `mapR` and `if`.
-/
import Pulsar.Basic
namespace Pulsar

def Res.mapR {α β : Type} (f : α → β) : Res α → Res β
  | .ok a => .ok (f a)
  | .err e => .err e
  | .panic => .panic

@[simp] theorem Res.mapR_ok {α β : Type} (f : α → β) (a : α) : Res.mapR f (.ok a) = .ok (f a) := rfl
@[simp] theorem Res.mapR_err {α β : Type} (f : α → β) (e : Err) : Res.mapR f (.err e : Res α) = .err e := rfl
@[simp] theorem Res.mapR_panic {α β : Type} (f : α → β) : Res.mapR f (.panic : Res α) = .panic := rfl

namespace Res
variable {α β γ : Type}

/-- a reader's result is a value and the input that is left: apply `g` to the value -/
abbrev mapFst (g : α → β) (x : Res (α × γ)) : Res (β × γ) := x.mapR fun p => (g p.1, p.2)

theorem bind_eq_ok {r : Res α} {f : α → Res β} {b : β} :
    (r >>= f) = .ok b ↔ ∃ a, r = .ok a ∧ f a = .ok b := by
  cases r <;> simp

theorem mapR_eq_ok {r : Res α} {f : α → β} {b : β} : mapR f r = .ok b ↔ ∃ a, r = .ok a ∧ f a = b := by
  cases r <;> simp

theorem mapFst_eq_ok {g : α → β} {x : Res (α × γ)} {b : β} {c : γ} :
    x.mapFst g = .ok (b, c) ↔ ∃ a, x = .ok (a, c) ∧ g a = b := by
  rw [mapR_eq_ok]
  constructor
  · rintro ⟨⟨a, c'⟩, hx, h⟩
    cases h
    exact ⟨a, hx, rfl⟩
  · rintro ⟨a, hx, rfl⟩
    exact ⟨(a, c), hx, rfl⟩

theorem bind_assoc (r : Res α) (f : α → Res β) (g : β → Res γ) :
    (r >>= f) >>= g = r >>= fun a => f a >>= g := by
  cases r <;> rfl

theorem bind_congr {r : Res α} {f g : α → Res β} (h : ∀ a, r = .ok a → f a = g a) : (r >>= f) = (r >>= g) := by
  cases r with
  | ok a => exact h a rfl
  | err e => rfl
  | panic => rfl

theorem bind_ne_panic {r : Res α} {f : α → Res β} (hr : r ≠ .panic) (hf : ∀ a, r = .ok a → f a ≠ .panic) :
    (r >>= f) ≠ .panic := by
  cases r with
  | ok a => exact hf a rfl
  | err e => simp
  | panic => exact absurd rfl hr

theorem mapR_ne_panic {r : Res α} {f : α → β} : mapR f r ≠ .panic ↔ r ≠ .panic := by
  cases r <;> simp

theorem ite_ne_panic {c : Prop} [Decidable c] {a b : Res α} (ha : c → a ≠ .panic) (hb : ¬c → b ≠ .panic) :
    (if c then a else b) ≠ .panic := by
  split
  · exact ha ‹_›
  · exact hb ‹_›

/-- what is known of a run by its outcome: `P` of a returned value, `E` of a returned error, and it does not panic -/
def Out (P : α → Prop) (E : Err → Prop) : Res α → Prop
  | .ok a => P a
  | .err e => E e
  | .panic => False

namespace Out
variable {P P' : α → Prop} {E E' : Err → Prop} {Q : β → Prop} {r : Res α}

theorem ok {a : α} (h : P a) : Out P E (.ok a) := h

theorem err {e : Err} (h : E e) : Out P E (.err e : Res α) := h

theorem of_ok {a : α} (h : r.Out P E) (hr : r = .ok a) : P a := by
  subst hr
  exact h

theorem of_err {e : Err} (h : r.Out P E) (hr : r = .err e) : E e := by
  subst hr
  exact h

theorem ne_panic (h : r.Out P E) : r ≠ .panic := by
  rintro rfl
  exact h

theorem bind {f : α → Res β} (h : r.Out P E) (hE : ∀ e, E e → E' e)
    (hf : ∀ a, r = .ok a → P a → (f a).Out Q E') : (r >>= f).Out Q E' := by
  cases r with
  | ok a => exact hf a rfl h
  | err e => exact hE e h
  | panic => exact h

theorem mono (h : r.Out P E) (hP : ∀ a, P a → P' a) (hE : ∀ e, E e → E' e) : r.Out P' E' := by
  cases r with
  | ok a => exact hP a h
  | err e => exact hE e h
  | panic => exact h

end Out

/-- `rd` is the image under `g` of `rn`, and what `rn` returns satisfies `P` -/
def Sim (g : α → β) (P : α → Prop) (rd : Res β) (rn : Res α) : Prop :=
  rd = rn.mapR g ∧ ∀ a, rn = .ok a → P a

namespace Sim
variable {α' β' : Type} {g : α → β} {P : α → Prop} {g' : α' → β'} {P' : α' → Prop}

theorem ok {a : α} {b : β} (h : b = g a) (hp : P a) : Sim g P (.ok b) (.ok a) :=
  ⟨by rw [h]; rfl, fun _ h => by cases h; exact hp⟩

theorem err (e : Err) : Sim g P (.err e) (.err e) := ⟨rfl, fun _ h => by cases h⟩

theorem panic : Sim g P .panic .panic := ⟨rfl, fun _ h => by cases h⟩

theorem bind {rd : Res β} {rn : Res α} {fd : β → Res β'} {fn : α → Res α'} (h : Sim g P rd rn)
    (hf : ∀ a, rn = .ok a → P a → Sim g' P' (fd (g a)) (fn a)) : Sim g' P' (rd >>= fd) (rn >>= fn) := by
  obtain ⟨rfl, hp⟩ := h
  cases rn with
  | ok a => exact hf a rfl (hp a rfl)
  | err e => exact err e
  | panic => exact panic

theorem bind_same (r : Res γ) {fd : γ → Res β'} {fn : γ → Res α'}
    (hf : ∀ a, r = .ok a → Sim g' P' (fd a) (fn a)) : Sim g' P' (r >>= fd) (r >>= fn) := by
  cases r with
  | ok a => exact hf a rfl
  | err e => exact err e
  | panic => exact panic

theorem mapR {rd : Res β} {rn : Res α} {hd : β → β'} {hn : α → α'} (h : Sim g P rd rn)
    (hf : ∀ a, P a → hd (g a) = g' (hn a) ∧ P' (hn a)) : Sim g' P' (rd.mapR hd) (rn.mapR hn) := by
  obtain ⟨rfl, hp⟩ := h
  cases rn with
  | ok a => exact ok (hf a (hp a rfl)).1 (hf a (hp a rfl)).2
  | err e => exact err e
  | panic => exact panic

theorem refl (r : Res α) {g : α → α} (hg : ∀ a, g a = a) (hp : ∀ a, P a) : Sim g P r r := by
  cases r with
  | ok a => exact ok (hg a).symm (hp a)
  | err e => exact err e
  | panic => exact panic

theorem ite {c : Prop} [Decidable c] {a b : Res β} {a' b' : Res α} (ha : c → Sim g P a a') (hb : ¬c → Sim g P b b') :
    Sim g P (if c then a else b) (if c then a' else b') := by
  split
  · exact ha ‹_›
  · exact hb ‹_›

end Sim
end Res

end Pulsar
