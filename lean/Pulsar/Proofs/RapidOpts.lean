/-
  What the options `NoEmptyLists`, `DisallowNilMessages` and `FieldMaps` guarantee for the message one
  `setFields` call fills: a per-slot fact about `genSlot`, made a guarantee for the message by
  `rp_local_setFields` and for every message of the generated tree by `rp_everywhere_setFields`. For `FieldMaps`
  the slot predicate `mapField` is `spSlot` with `sp := mapVal o` and nothing claimed of sub-messages.
-/
import Pulsar.Proofs.RapidScalars
namespace Pulsar.Rapidproto

/-! ### `NoEmptyLists` -/

theorem rp_len_listScalars (o : GenOpts) (E : List Int) (k : Kind) (n : Nat) (es : List Val) (ds : List Draw) :
    Post (fun _ => true) (listScalars o E k n es ds) (fun es' => es'.length = es.length + n) :=
  rp_inv_listScalars (sp := fun _ => True) (fun _ => Post.any _) (fun m es' => es'.length + m = es.length + n)
    (fun _ _ _ h _ => by simp only [List.length_append, List.length_singleton]; omega) n es ds rfl

theorem rp_len_listMsgs (S : Schema) {child : Nat → Val → List Draw → R (Bool × Val)}
    (hflag : ∀ mi v ds, Post (fun _ => true) (child mi v ds) (fun r => r.1 = true)) (mi n i : Nat) (es : List Val)
    (ds : List Draw) : Post (fun _ => true) (listMsgs S child mi n i es ds) (fun es' => es'.length = es.length + n) :=
  rp_inv_listMsgs (C := fun r => r.1 = true) (fun ds => hflag mi _ ds) (fun m es' => es'.length + m = es.length + n)
    (fun _ _ _ h _ _ => by simp only [List.length_append, List.length_singleton]; omega)
    (fun _ _ r _ _ hr hf => by rw [hr] at hf; cases hf) n i es ds rfl

/-- the count is drawn from `IntRange(1,10)`, and below the limit with `DisallowNilMessages` no message element is
    truncated away -/
theorem rp_nel_genSlot (S : Schema) (o : GenOpts) (E : List Int) (ho : o.noEmptyLists = true)
    (fuel depth : Nat) (f : FieldDesc) (cur : Val) (ds : List Draw) :
    Post Ev.inRange (genSlot S o E (setFields S o E fuel (depth+1)) f cur ds)
      (fun x => nelField o.disallowNil depth f x = true) := by
  have hcount : ∀ c : Draw, Ev.inRange ⟨.count 1, c⟩ = true → 1 ≤ c.getInt.toNat := fun c h => by
    simp [Ev.inRange, Gen.inRange] at h
    omega
  cases hs : f.shape with
  | repeated pk =>
    unfold genSlot nelField
    cases he : f.elem <;> simp only [hs, ho, if_true]
    · refine (Post.draw _ ds).bind (fun c rest hc => ((Post.of_all (rp_len_listScalars o E _ _ _ rest)).mono
        (fun es' hl => ?_)).map)
      have := hcount c hc
      exact decide_eq_true (by simp only [Val.elems]; omega)
    · by_cases hneed : (o.disallowNil && decide (depth < Extracted.depthLimit)) = true
      · have hlt : depth < Extracted.depthLimit := by
          simp only [Bool.and_eq_true, decide_eq_true_eq] at hneed
          exact hneed.2
        have hflag : ∀ mi v ds, Post (fun _ => true) (setFields S o E fuel (depth+1) mi v ds) (fun r => r.1 = true) :=
          fun mi v ds => (rp_setFields_out S o E fuel (depth+1) mi v ds).mono (fun r h => by rw [h.2.1]; simp; omega)
        refine (Post.draw _ ds).bind (fun c rest hc => ((Post.of_all (rp_len_listMsgs S hflag _ _ 0 _ rest)).mono
          (fun es' hl => ?_)).map)
        have := hcount c hc
        simp only [Bool.or_eq_true]
        exact Or.inr (decide_eq_true (by simp only [Val.elems]; omega))
      · exact (Post.any _).mono (fun _ _ => by simp [Bool.not_eq_true _ ▸ hneed])
  | _ => exact (Post.any _).mono (fun _ _ => by cases he : f.elem <;> simp [nelField, hs, he])

theorem rp_nelField_none (needMsg : Bool) (d : Nat) (f : FieldDesc) (h : ∃ g, f.group? = some g) :
    nelField needMsg d f .none = true := by
  obtain ⟨g, h⟩ := h
  have hs := FieldDesc.group?_eq_some.1 h
  cases he : f.elem <;> simp [nelField, hs, he]

theorem rp_nelField_skip (d : Nat) (f : FieldDesc) (x : Val) (h : isMsgKind f = true) :
    nelField false d f x = true := by
  unfold isMsgKind at h
  cases hs : f.shape <;> cases he : f.elem <;> simp [hs, he] at h <;> simp [nelField, hs, he]

theorem rp_nel_MpStep (S : Schema) (o : GenOpts) (E : List Int) (ho : o.noEmptyLists = true) :
    MpStep Ev.inRange S o E mpTrue (nelLocal S o.disallowNil) := by
  intro fuel depth i v ds _
  exact rp_local_setFields S o E (fun d => decide (d > Extracted.depthLimit)) (fun _ h => decide_eq_true h)
    (fun _ _ _ => true) (nelField o.disallowNil) (fun _ _ _ _ => rfl)
    (fun d f hf => rp_nelField_none _ d f hf)
    (fun d f x hk hdn _ => by rw [hdn]; exact rp_nelField_skip d f x hk)
    (fun fuel depth f cur ds _ => (rp_nel_genSlot S o E ho fuel depth f cur ds).mono (fun _ h _ => h))
    fuel depth i v ds (by simp)

/-! ### `DisallowNilMessages` -/

theorem rp_nonil_genSlot {p : Ev → Bool} (S : Schema) (o : GenOpts) (E : List Int) (fuel depth : Nat)
    (f : FieldDesc) (cur : Val) (ds : List Draw) (hlt : depth < Extracted.depthLimit) :
    Post p (genSlot S o E (setFields S o E fuel (depth+1)) f cur ds) (fun x => presentField f x = true) := by
  cases hs : f.shape with
  | singular =>
    cases he : f.elem with
    | scalar k => exact (Post.any _).mono (fun _ _ => by simp [presentField, hs, he])
    | message mi =>
      unfold genSlot
      simp only [hs, he]
      refine ((Post.of_all (rp_setFields_out S o E fuel (depth+1) mi _ ds)).mono (fun r hr => ?_)).map
      have h1 : r.1 = true := by rw [hr.2.1]; simp; omega
      simp [presentField, hs, he, h1, hr.2.2.1 h1]
  | _ => exact (Post.any _).mono (fun _ _ => by cases he : f.elem <;> simp [presentField, hs, he])

theorem rp_nonil_MpStep {p : Ev → Bool} (S : Schema) (o : GenOpts) (E : List Int) (ho : o.disallowNil = true) :
    MpStep p S o E mpTrue (nonilLocal S) := by
  intro fuel depth i v ds _
  -- the guard of `nonilLocal` stops one level before the limit
  exact rp_local_setFields S o E (fun d => decide (d ≥ Extracted.depthLimit))
    (fun _ h => decide_eq_true (Nat.le_of_lt h)) (fun _ _ _ => true) (fun _ => presentField) (fun _ _ _ _ => rfl)
    (fun d f ⟨g, hg⟩ => by
      have hs := FieldDesc.group?_eq_some.1 hg
      cases he : f.elem <;> simp [presentField, hs, he])
    (fun d f x _ hdn _ => by rw [ho] at hdn; cases hdn)
    (fun fuel depth f cur ds hg => (rp_nonil_genSlot S o E fuel depth f cur ds (by simpa using hg)).mono
      (fun x h _ => h))
    fuel depth i v ds (by simp)

/-! ### `FieldMaps` -/

theorem rp_spElem_top (sp : Kind → Val → Bool) (mi : Nat) :
    spElem sp (fun _ _ => true) (.message mi) = fun _ => true := by
  funext v
  simp [spElem]

/-- the two sides unfold to the same term, up to `&& true` on the entries of a map with message values -/
theorem rp_mapField_true_eq (o : GenOpts) (f : FieldDesc) (x : Val) :
    mapField o true f x = spSlot (mapVal o) (fun _ _ => true) f x := by
  unfold mapField spSlot
  cases f.shape <;> cases f.elem <;> simp only [rp_spEntry_eq, rp_spElem_scalar, rp_spElem_top] <;>
    first | rfl | (cases x <;> rfl) | simp

theorem rp_mapField_false_eq (o : GenOpts) (f : FieldDesc) (x : Val) :
    mapField o false f x = spSlot0 (mapVal o) (fun _ _ => true) f x := by
  unfold mapField spSlot0 spSlot
  cases f.shape <;> cases f.elem <;> simp only [rp_spEntry_eq, rp_spElem_scalar, rp_spElem_top] <;>
    first | rfl | (cases x <;> rfl) | simp

theorem rp_mapField_weaken {o : GenOpts} {f : FieldDesc} {x : Val} (h : mapField o true f x = true) :
    mapField o false f x = true := by
  rw [rp_mapField_false_eq]
  exact rp_spSlot0_of_spSlot (by rwa [← rp_mapField_true_eq])

theorem rp_map_SpGen (o : GenOpts) (E : List Int) : SpGen (fun _ => true) (mapVal o) o E :=
  fun _ ds => Post.genScalar ds (fun w hw => by simp [mapVal, hw, rp_val_beq_refl]) (fun hn _ _ => by simp [mapVal, hn])

theorem rp_map_MpOK (S : Schema) (o : GenOpts) : MpOK S (mapLocalPre S o) (mapLocal S o) := by
  refine ⟨fun d i v h => ?_, fun d i => ?_, fun d i => ?_⟩
  · simp only [mapLocal, mapLocalPre, Bool.or_eq_true] at h ⊢
    refine h.imp_right (fun h => ?_)
    rw [List.all_eq_true] at h ⊢
    exact fun q hq => rp_mapField_weaken (h q hq)
  · simp only [mapLocalPre, Bool.or_eq_true]
    refine Or.inr ?_
    simp only [emptyMsg, Val.slots]
    refine all_zip_zero (fun f v => mapField o false f v) (fun f => ?_) _
    cases hs : f.shape <;> cases he : f.elem <;> simp [mapField, FieldDesc.zero, hs, he, Val.elems]
  · simp [mapLocalPre, Val.slots]

theorem rp_map_MpStep {p : Ev → Bool} (S : Schema) (o : GenOpts) (E : List Int) :
    MpStep p S o E (mapLocalPre S o) (mapLocal S o) :=
  rp_local_setFields S o E (fun d => decide (d > Extracted.depthLimit)) (fun _ h => decide_eq_true h)
    (fun _ => mapField o false) (fun _ => mapField o true)
    (fun _ _ _ => rp_mapField_weaken)
    (fun _ f hf => by
      rw [rp_mapField_true_eq]
      exact rp_spSlot_none _ _ f hf)
    (fun _ f x hk _ h0 => by
      -- a field that can be skipped is not a singular scalar
      rw [rp_mapField_true_eq]
      rw [rp_mapField_false_eq] at h0
      unfold spSlot0 at h0
      unfold isMsgKind at hk
      split at h0
      · rename_i hs he
        simp [hs, he] at hk
      · exact h0)
    (fun fuel depth f cur ds _ => by
      simp only [rp_mapField_true_eq, rp_mapField_false_eq]
      exact Post.of_all (rp_sp_genSlot (rp_map_SpGen o E)
        ⟨fun _ _ _ _ => (Post.any _).mono (fun _ _ => rfl), fun _ => rfl, fun _ => rfl, fun _ _ _ => rfl⟩ f cur ds))

end Pulsar.Rapidproto
