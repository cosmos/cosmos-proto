/-
  Pulsar.Proofs.Slots — a message value holds one slot per declared field, aligned by position. Lists by
  position, `fields.zip slots` by index and under maps (`clearGroup` is such a map), `findField` on pairwise
  distinct field numbers, `mapPut`; first, `Val.beq` is equality.
-/
import Pulsar.Decode
namespace Pulsar

@[simp] theorem Val.slots_msg (sl : List Val) (u : Bytes) : (Val.msg sl u).slots = sl := rfl
@[simp] theorem Val.unknown_msg (sl : List Val) (u : Bytes) : (Val.msg sl u).unknown = u := rfl
@[simp] theorem Val.isNone_msg (sl : List Val) (u : Bytes) : (Val.msg sl u).isNone = false := rfl
@[simp] theorem Val.elems_list (nn : Bool) (es : List Val) : (Val.list nn es).elems = es := rfl
@[simp] theorem Val.elems_map (nn : Bool) (es : List Val) : (Val.map nn es).elems = es := rfl
@[simp] theorem Val.key_entry (k v : Val) : (Val.entry k v).key = k := rfl
@[simp] theorem Val.value_entry (k v : Val) : (Val.entry k v).value = v := rfl

/-! ### `Val.beq` is equality -/

namespace Rapidproto

mutual
theorem rp_val_beq_refl : ∀ a : Val, Val.beq a a = true
  | .bits n => by simp [Val.beq]
  | .blob f a => by simp [Val.beq]
  | .none => by simp [Val.beq]
  | .msg s u => by simp [Val.beq, rp_val_beqList_refl s]
  | .list f a => by simp [Val.beq, rp_val_beqList_refl a]
  | .map f a => by simp [Val.beq, rp_val_beqList_refl a]
  | .entry k v => by simp [Val.beq, rp_val_beq_refl k, rp_val_beq_refl v]
  | .one a => by simp [Val.beq, rp_val_beq_refl a]
  | .oneNil => by simp [Val.beq]
theorem rp_val_beqList_refl : ∀ l : List Val, Val.beqList l l = true
  | [] => by simp [Val.beqList]
  | a :: as => by simp [Val.beqList, rp_val_beq_refl a, rp_val_beqList_refl as]
end

mutual
theorem rp_val_eq_of_beq : ∀ a b : Val, Val.beq a b = true → a = b
  | .bits n, b => by cases b <;> simp [Val.beq]
  | .blob f a, b => by cases b <;> simp [Val.beq]
  | .none, b => by cases b <;> simp [Val.beq]
  | .msg s u, b => by
    cases b <;> simp [Val.beq]
    intro h1 h2; exact ⟨rp_val_eq_of_beqList s _ h1, h2⟩
  | .list f a, b => by
    cases b <;> simp [Val.beq]
    intro h1 h2; exact ⟨h1, rp_val_eq_of_beqList a _ h2⟩
  | .map f a, b => by
    cases b <;> simp [Val.beq]
    intro h1 h2; exact ⟨h1, rp_val_eq_of_beqList a _ h2⟩
  | .entry k v, b => by
    cases b <;> simp [Val.beq]
    intro h1 h2; exact ⟨rp_val_eq_of_beq k _ h1, rp_val_eq_of_beq v _ h2⟩
  | .one a, b => by
    cases b <;> simp [Val.beq]
    intro h1; exact rp_val_eq_of_beq a _ h1
  | .oneNil, b => by cases b <;> simp [Val.beq]
theorem rp_val_eq_of_beqList : ∀ l m : List Val, Val.beqList l m = true → l = m
  | [], m => by cases m <;> simp [Val.beqList]
  | a :: as, m => by
    cases m <;> simp [Val.beqList]
    intro h1 h2; exact ⟨rp_val_eq_of_beq a _ h1, rp_val_eq_of_beqList as _ h2⟩
end

theorem rp_val_beq_iff (a b : Val) : Val.beq a b = true ↔ a = b :=
  ⟨rp_val_eq_of_beq a b, fun h => h ▸ rp_val_beq_refl a⟩

end Rapidproto

/-! ### a list by position -/

section list
variable {α : Type}

theorem lt_of_getElem?_some {l : List α} {j : Nat} {a : α} (h : l[j]? = some a) : j < l.length :=
  (List.getElem?_eq_some_iff.1 h).1

theorem drop_eq_cons {fs : List α} {j : Nat} {f : α} {rem : List α} (h : fs.drop j = f :: rem) :
    fs[j]? = some f ∧ fs.drop (j+1) = rem :=
  ⟨by simpa [List.head?_drop] using congrArg List.head? h, by simpa [List.tail_drop] using congrArg List.tail h⟩

theorem getD_set_self {d : α} {l : List α} {j : Nat} {v : α} (h : j < l.length) : (l.set j v).getD j d = v := by
  rw [List.getD_eq_getElem?_getD, List.getElem?_set_self h]; rfl

theorem getD_set_ne {d : α} {l : List α} {j j' : Nat} {v : α} (h : j ≠ j') :
    (l.set j v).getD j' d = l.getD j' d := by
  rw [List.getD_eq_getElem?_getD, List.getElem?_set_ne h, List.getD_eq_getElem?_getD]

theorem set_getD_self (d : α) (l : List α) (j : Nat) : l.set j (l.getD j d) = l := by
  by_cases h : j < l.length
  · rw [List.getD_eq_getElem?_getD, List.getElem?_eq_getElem h]; exact List.set_getElem_self h
  · exact List.set_eq_of_length_le (by omega)

theorem all_set (p : α → Bool) (l : List α) (i : Nat) (x : α) (h : l.all p = true) (hx : p x = true) :
    (l.set i x).all p = true := by
  rw [List.all_eq_true] at *
  exact fun a ha => (List.mem_or_eq_of_mem_set ha).elim (h a) fun e => e ▸ hx

theorem all_take (p : α → Bool) (l : List α) (n : Nat) (h : l.all p = true) : (l.take n).all p = true := by
  rw [List.all_eq_true] at *
  exact fun x hx => h x (List.mem_of_mem_take hx)

theorem all_append_one (p : α → Bool) {l : List α} {x : α} (h : l.all p = true) (hx : p x = true) :
    (l ++ [x]).all p = true := by
  simp only [List.all_append, h, List.all_cons, hx, List.all_nil, Bool.and_self]

theorem all_filter (p q : α → Bool) {l : List α} (h : l.all p = true) : (l.filter q).all p = true := by
  rw [List.all_eq_true] at *
  exact fun x hx => h x (List.mem_filter.1 hx).1

end list

/-! ### `fs.zip ss` by index -/

section zip
variable {α β γ : Type} {fs : List α} {ss : List β}

theorem mem_zip_iff_getElem? {p : α × β} : p ∈ fs.zip ss ↔ ∃ j : Nat, fs[j]? = some p.1 ∧ ss[j]? = some p.2 := by
  rw [List.mem_iff_getElem?]
  exact exists_congr fun j => List.getElem?_zip_eq_some

theorem forall_mem_zip {P : α → β → Prop} :
    (∀ p ∈ fs.zip ss, P p.1 p.2) ↔ ∀ (j : Nat) a b, fs[j]? = some a → ss[j]? = some b → P a b :=
  ⟨fun h j a b ha hb => h (a, b) (mem_zip_iff_getElem?.2 ⟨j, ha, hb⟩),
   fun h _ hp => let ⟨j, ha, hb⟩ := mem_zip_iff_getElem?.1 hp; h j _ _ ha hb⟩

theorem getElem?_zip_getD (d : β) (fs : List α) (ss : List β) (j : Nat) (a : α)
    (ha : fs[j]? = some a) (hj : j < ss.length) : (fs.zip ss)[j]? = some (a, ss.getD j d) := by
  rw [List.getElem?_zip_eq_some]
  exact ⟨ha, by rw [List.getD_eq_getElem?_getD, List.getElem?_eq_getElem hj]; rfl⟩

theorem exists_mem_zip_of_mem_right {v : β} (hl : ss.length = fs.length) (hv : v ∈ ss) : ∃ a, (a, v) ∈ fs.zip ss := by
  obtain ⟨j, hj, rfl⟩ := List.getElem_of_mem hv
  have hjf : j < fs.length := hl ▸ hj
  exact ⟨fs[j], mem_zip_iff_getElem?.2 ⟨j, List.getElem?_eq_getElem hjf, List.getElem?_eq_getElem hj⟩⟩

theorem zip_set_right : ∀ {fs : List α} {ss : List β} {j : Nat} {v : β} {a : α}, fs[j]? = some a →
    fs.zip (ss.set j v) = (fs.zip ss).set j (a, v)
  | [], _, _, _, _, h => by simp at h
  | _ :: _, [], _, _, _, _ => by simp
  | _ :: _, _ :: _, 0, _, _, h => by simp at h; simp [h]
  | _ :: fs, _ :: ss, j+1, v, a, h => by
    simp only [List.getElem?_cons_succ] at h
    simp only [List.set_cons_succ, List.zip_cons_cons, zip_set_right h]

theorem forall_mem_zip_set {P : α → β → Prop} {j : Nat} {a : α} {v : β} (ha : fs[j]? = some a) (hv : P a v)
    (h : ∀ p ∈ fs.zip ss, P p.1 p.2) : ∀ p ∈ fs.zip (ss.set j v), P p.1 p.2 := by
  rw [forall_mem_zip] at h ⊢
  intro k a' b ha' hb
  by_cases hjk : j = k
  · subst hjk
    rw [List.getElem?_set] at hb
    simp only [if_true] at hb
    split at hb
    · rw [ha] at ha'
      cases ha'; cases hb
      exact hv
    · cases hb
  · rw [List.getElem?_set_ne hjk] at hb
    exact h k a' b ha' hb

theorem forall_mem_zip_getD {P : α → β → Prop} {j : Nat} {a : α} (d : β) (ha : fs[j]? = some a)
    (hd : ss.length ≤ j → P a d) (h : ∀ p ∈ fs.zip ss, P p.1 p.2) : P a (ss.getD j d) := by
  rw [List.getD_eq_getElem?_getD]
  by_cases hj : j < ss.length
  · rw [List.getElem?_eq_getElem hj]
    exact forall_mem_zip.1 h j a _ ha (List.getElem?_eq_getElem hj)
  · rw [List.getElem?_eq_none (Nat.le_of_not_lt hj)]
    exact hd (Nat.le_of_not_lt hj)

theorem zip_distinct {num : α → Nat} (h : fs.Pairwise (fun a b => num a ≠ num b)) (ss : List β) :
    (fs.zip ss).Pairwise (fun a b => num a.1 ≠ num b.1) := by
  induction fs generalizing ss with
  | nil => simp
  | cons f fs ih =>
    cases ss with
    | nil => simp
    | cons v vs =>
      rw [List.pairwise_cons] at h
      exact List.pairwise_cons.2 ⟨fun p hp => h.1 p.1 (List.of_mem_zip hp).1, ih h.2 vs⟩

/-! ### maps over the zip -/

variable (G : α → β → γ)

theorem zip_map_set {j : Nat} {a : α} {v : β} (ha : fs[j]? = some a) :
    (fs.zip (ss.set j v)).map (fun p => G p.1 p.2) = ((fs.zip ss).map (fun p => G p.1 p.2)).set j (G a v) := by
  rw [zip_set_right ha, List.map_set]

theorem getD_zip_map {d : β} {d' : γ} : ∀ {fs : List α} {ss : List β} {j : Nat} {a : α}, fs[j]? = some a →
    (ss.length ≤ j → G a d = d') → ((fs.zip ss).map (fun p => G p.1 p.2)).getD j d' = G a (ss.getD j d)
  | [], _, _, _, h, _ => by simp at h
  | _ :: _, [], _, _, _, hG => by simp [hG]
  | _ :: _, _ :: _, 0, _, h, _ => by simp at h; subst h; simp
  | _ :: fs, _ :: ss, j + 1, a, h, hG => by
    simp only [List.getElem?_cons_succ] at h
    simp only [List.zip_cons_cons, List.map_cons, List.getD_cons_succ]
    exact getD_zip_map h (fun hl => hG (Nat.succ_le_succ hl))

theorem zip_zip_map : ∀ (fs : List α) (ss : List β),
    fs.zip ((fs.zip ss).map (fun p => G p.1 p.2)) = (fs.zip ss).map (fun p => (p.1, G p.1 p.2))
  | [], _ => rfl
  | _ :: _, [] => rfl
  | _ :: fs, _ :: ss => by simp [zip_zip_map fs ss]

theorem zip_map_congr {d : β} : ∀ (fs : List α) (ss ss' : List β), ss.length = fs.length → ss'.length = fs.length →
    (∀ j a v, fs[j]? = some a → ss'[j]? = some v → G a (ss.getD j d) = G a v) →
    (fs.zip ss).map (fun p => G p.1 p.2) = (fs.zip ss').map (fun p => G p.1 p.2)
  | [], _, _, _, _, _ => by simp
  | _ :: _, [], _, h1, _, _ => by simp at h1
  | _ :: _, _ :: _, [], _, h2, _ => by simp at h2
  | f :: fs, x :: xs, y :: ys, h1, h2, h => by
    simp only [List.zip_cons_cons, List.map_cons, List.cons.injEq]
    refine ⟨by simpa using h 0 f y rfl rfl,
      zip_map_congr (d := d) fs xs ys (by simpa using h1) (by simpa using h2) ?_⟩
    intro j a v ha hv
    simpa using h (j + 1) a v (by simpa using ha) (by simpa using hv)

theorem zip_self_map (fs : List α) (z : α → β) : fs.zip (fs.map z) = fs.map (fun a => (a, z a)) := by
  induction fs with
  | nil => rfl
  | cons a fs ih => rw [List.map_cons, List.zip_cons_cons, ih]; rfl

theorem zip_map_self (fs : List α) (z : α → β) :
    (fs.zip (fs.map z)).map (fun p => G p.1 p.2) = fs.map (fun a => G a (z a)) := by
  rw [zip_self_map, List.map_map]; rfl

theorem zip_all_self (fs : List α) (z : α → β) (P : α → β → Bool) :
    (fs.zip (fs.map z)).all (fun p => P p.1 p.2) = fs.all (fun a => P a (z a)) := by
  rw [zip_self_map, List.all_map]; rfl

end zip

/-! ### `clearGroup` -/

theorem clearGroup_cons (a : FieldDesc) (fs : List FieldDesc) (g : Nat) (s : Val) (slots : List Val) :
    clearGroup (a :: fs) g (s :: slots) =
      (if a.group? == some g then Val.none else s) :: clearGroup fs g slots := by
  simp [clearGroup]

theorem clearGroup_nil_right (fs : List FieldDesc) (g : Nat) : clearGroup fs g [] = [] := by
  simp [clearGroup]

theorem clearGroup_length (fs : List FieldDesc) (g : Nat) (slots : List Val) (h : slots.length = fs.length) :
    (clearGroup fs g slots).length = fs.length := by
  simp [clearGroup, h]

theorem getD_clearGroup {fs : List FieldDesc} {g : Nat} {slots : List Val} {j : Nat} {f : FieldDesc}
    (hf : fs[j]? = some f) :
    (clearGroup fs g slots).getD j .none = if f.group? == some g then Val.none else slots.getD j .none :=
  getD_zip_map (fun (f : FieldDesc) (v : Val) => if f.group? == some g then Val.none else v) hf (fun _ => ite_self _)

theorem zip_clearGroup (fs : List FieldDesc) (g : Nat) (slots : List Val) :
    fs.zip (clearGroup fs g slots)
      = (fs.zip slots).map (fun p => (p.1, if p.1.group? == some g then Val.none else p.2)) :=
  zip_zip_map (fun (f : FieldDesc) (v : Val) => if f.group? == some g then Val.none else v) fs slots

theorem zip_map_clearGroup (fs : List FieldDesc) (g : Nat) (G : FieldDesc → Val → Val)
    (hG : ∀ f, f.group? = some g → G f .none = .none)
    (slots : List Val) :
    (fs.zip (clearGroup fs g slots)).map (fun p => G p.1 p.2) =
      clearGroup fs g ((fs.zip slots).map (fun p => G p.1 p.2)) := by
  rw [zip_clearGroup]
  unfold clearGroup
  rw [zip_zip_map G, List.map_map, List.map_map]
  refine List.map_congr_left (fun p _ => ?_)
  simp only [Function.comp]
  split
  · rename_i hg; exact hG p.1 (by simpa using hg)
  · rfl

theorem forall_mem_zip_clearGroup {P : FieldDesc → Val → Prop} (fs : List FieldDesc) (g : Nat)
    (hP : ∀ f, f.group? = some g → P f .none) (slots : List Val)
    (h : ∀ p ∈ fs.zip slots, P p.1 p.2) : ∀ p ∈ fs.zip (clearGroup fs g slots), P p.1 p.2 := by
  rw [zip_clearGroup]
  intro q hq
  obtain ⟨p, hp, rfl⟩ := List.mem_map.1 hq
  simp only
  split
  · rename_i hg; exact hP p.1 (by simpa using hg)
  · exact h p hp

theorem clearGroup_eq_self (fs : List FieldDesc) (g : Nat) : ∀ (ss : List Val), ss.length = fs.length →
    (∀ k fk, fs[k]? = some fk → fk.group? = some g → ss.getD k .none = .none) →
    clearGroup fs g ss = ss := by
  induction fs with
  | nil => intro ss hl _; cases ss <;> simp_all [clearGroup]
  | cons f fs ih =>
    intro ss hl h
    cases ss with
    | nil => simp at hl
    | cons x xs =>
      rw [clearGroup_cons, ih xs (by simpa using hl) (fun k fk hk hg => by simpa using h (k + 1) fk (by simpa using hk) hg)]
      by_cases hg : f.group? = some g
      · have := h 0 f rfl hg
        simp only [List.getD_cons_zero] at this
        simp [hg, this]
      · simp [hg]

theorem mem_zip_map_zero {fs : List FieldDesc} {p : FieldDesc × Val} (h : p ∈ fs.zip (fs.map FieldDesc.zero)) :
    p.2 = p.1.zero := by
  rw [zip_self_map] at h
  obtain ⟨f, _, rfl⟩ := List.mem_map.1 h
  rfl

theorem all_zip_zero (p : FieldDesc → Val → Bool) (hp : ∀ f, p f f.zero = true) (fs : List FieldDesc) :
    ((fs.zip (fs.map FieldDesc.zero)).all (fun q => p q.1 q.2)) = true := by
  rw [zip_all_self]
  exact List.all_eq_true.2 (fun f _ => hp f)

/-! ### `findField`, and on pairwise distinct numbers its converse -/

theorem findField_getElem? {fs : List FieldDesc} {num j : Nat} {f : FieldDesc}
    (h : findField fs num = some (j, f)) : fs[j]? = some f := by
  unfold findField at h
  cases hfind : fs.zipIdx.find? (fun p => p.1.num == num) with
  | none => rw [hfind] at h; cases h
  | some p =>
    rw [hfind] at h
    simp only [Option.map_some, Option.some.injEq, Prod.mk.injEq] at h
    obtain ⟨rfl, rfl⟩ := h
    exact List.mem_zipIdx_iff_getElem?.1 (List.mem_of_find?_eq_some hfind)

theorem find_zipIdx {fs : List FieldDesc} (hd : fs.Pairwise (fun a b => a.num ≠ b.num)) :
    ∀ (start j : Nat) (f : FieldDesc), fs[j]? = some f →
      (fs.zipIdx start).find? (fun p => p.1.num == f.num) = some (f, start + j) := by
  induction fs with
  | nil => intro start j f h; simp at h
  | cons g fs ih =>
    intro start j f h
    rw [List.pairwise_cons] at hd
    cases j with
    | zero =>
      simp only [List.getElem?_cons_zero, Option.some.injEq] at h
      subst h
      simp [List.zipIdx_cons]
    | succ j =>
      simp only [List.getElem?_cons_succ] at h
      have hne : g.num ≠ f.num := hd.1 f (List.mem_of_getElem? h)
      rw [List.zipIdx_cons, List.find?_cons]
      have : (g.num == f.num) = false := beq_eq_false_iff_ne.2 hne
      simp only [this]
      rw [ih hd.2 (start + 1) j f h]
      congr 2; omega

theorem findField_of_getElem? {fs : List FieldDesc} (hd : fs.Pairwise (fun a b => a.num ≠ b.num))
    {j : Nat} {f : FieldDesc} (h : fs[j]? = some f) : findField fs f.num = some (j, f) := by
  unfold findField
  rw [find_zipIdx hd 0 j f h]
  simp

theorem findField_none {fs : List FieldDesc} {num : Nat} (h : fs.any (fun f => f.num == num) = false) :
    findField fs num = none := by
  unfold findField
  rw [Option.map_eq_none_iff, List.find?_eq_none]
  intro p hp
  rw [List.any_eq_false] at h
  have := h p.1 (by
    have := List.mem_zipIdx hp
    rcases p with ⟨a, b⟩
    simp only at this ⊢
    obtain ⟨_, _, h3⟩ := this
    rw [h3]; exact List.getElem_mem _)
  simpa using this

theorem index_unique {fs : List FieldDesc} (hd : fs.Pairwise (fun a b => a.num ≠ b.num))
    {j k : Nat} {f g : FieldDesc} (hj : fs[j]? = some f) (hk : fs[k]? = some g) (h : f.num = g.num) :
    j = k := by
  have h1 := findField_of_getElem? hd hj
  have h2 := findField_of_getElem? hd hk
  rw [h] at h1
  rw [h1] at h2
  simp only [Option.some.injEq, Prod.mk.injEq] at h2
  exact h2.1

/-! ### `mapPut` -/

theorem mapPut_fresh (kbeq : Val → Val → Bool) (es : List Val) (k v : Val)
    (h : ∀ e ∈ es, kbeq e.key k = false) : mapPut kbeq es k v = es ++ [.entry k v] := by
  unfold mapPut
  rw [if_neg]
  simp only [List.any_eq_true, not_exists, not_and, Bool.not_eq_true]
  exact h

theorem mem_mapPut {kb : Val → Val → Bool} {es : List Val} {k v en : Val} (h : en ∈ mapPut kb es k v) :
    en ∈ es ∨ en = .entry k v := by
  unfold mapPut at h
  split at h
  · obtain ⟨e0, he0, rfl⟩ := List.mem_map.1 h
    split
    · exact Or.inr rfl
    · exact Or.inl he0
  · simpa using h

theorem all_mapPut {p : Val → Bool} (kbeq : Val → Val → Bool) (L : List Val) (k x : Val)
    (h : L.all p = true) (hx : p (.entry k x) = true) : (mapPut kbeq L k x).all p = true :=
  List.all_eq_true.2 fun e he => (mem_mapPut he).elim (List.all_eq_true.1 h e) fun heq => heq ▸ hx

theorem map_mapPut {kb : Val → Val → Bool} (h : Val → Val) (k x k' x' : Val)
    (hk : ∀ en, kb (h en).key k' = kb en.key k) (hx : h (.entry k x) = .entry k' x') (L : List Val) :
    (mapPut kb L k x).map h = mapPut kb (L.map h) k' x' := by
  unfold mapPut
  rw [List.any_map, show ((fun en => kb en.key k') ∘ h) = fun en => kb en.key k from funext hk]
  split
  · rw [List.map_map, List.map_map]
    refine List.map_congr_left fun en _ => ?_
    simp only [Function.comp, hk]
    split
    · exact hx
    · rfl
  · rw [List.map_append, List.map_cons, List.map_nil, hx]

end Pulsar
