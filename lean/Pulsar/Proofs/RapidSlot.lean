/-
  The slot level of the draw-level rapidproto model. `genField` computes a new value for the ONE slot it fills
  (`genSlot`) and writes it into the slot list (`slotBase`), so a case analysis over the field shapes is about
  one `Val`. Each loop of the generator has one invariant rule; `generate` is `setFields` on a new message.
-/
import Pulsar.Proofs.RapidModel
import Pulsar.Proofs.EncodeKeyOrder
namespace Pulsar.Rapidproto

/-- the new value of the slot `genField` fills, computed from its current value `cur` alone -/
def genSlot (S : Schema) (o : GenOpts) (E : List Int) (child : Nat → Val → List Draw → R (Bool × Val))
    (f : FieldDesc) (cur : Val) (ds : List Draw) : R Val :=
  match f.shape, f.elem with
  | .repeated _, .scalar k =>
    (draw (.count (if o.noEmptyLists then 1 else 0)) ds).bind fun n rest =>
      (listScalars o E k n.getInt.toNat cur.elems rest).map (.list false)
  | .repeated _, .message mi =>
    (draw (.count (if o.noEmptyLists then 1 else 0)) ds).bind fun n rest =>
      (listMsgs S child mi n.getInt.toNat 0 cur.elems rest).map (.list false)
  | .map kk, .scalar vk =>
    (draw (.count 0) ds).bind fun n rest => (mapScalars o E kk vk n.getInt.toNat cur.elems rest).map (.map false)
  | .map kk, .message mi =>
    (draw (.count 0) ds).bind fun n rest => (mapMsgs S o E child kk mi n.getInt.toNat cur.elems rest).map (.map false)
  | .singular, .message mi =>
    (child mi (if cur.isNone then emptyMsg S mi else cur) ds).map fun r => if r.1 then r.2 else .none
  | .oneof _, .message mi =>
    (child mi (match cur with | .one x => x | _ => emptyMsg S mi) ds).map fun r => if r.1 then .one r.2 else .none
  | .singular, .scalar k => genScalar o E k ds
  | .oneof _, .scalar k => (genScalar o E k ds).map .one

/-- the slot list `genField` writes the new value into: the other members of a oneof group are dropped, except
    under a held message member, which is updated in place -/
def slotBase (fs : List FieldDesc) (f : FieldDesc) (cur : Val) (slots : List Val) : List Val :=
  match f.shape with
  | .oneof g => (match f.elem, cur with | .message _, .one _ => slots | _, _ => clearGroup fs g slots)
  | _ => slots

theorem rp_genField_eq (S : Schema) (o : GenOpts) (E : List Int) (child : Nat → Val → List Draw → R (Bool × Val))
    (fs : List FieldDesc) (f : FieldDesc) (j : Nat) (slots : List Val) (ds : List Draw) :
    genField S o E child fs f j slots ds =
      (genSlot S o E child f (slots.getD j .none) ds).map
        (fun x => (slotBase fs f (slots.getD j .none) slots).set j x) := by
  unfold genField genSlot slotBase
  generalize slots.getD j Val.none = cur
  cases f.shape <;> cases f.elem <;> simp only [R.map_map, R.bind_map]
  -- oneof message member: both sides branch on `cur`
  cases cur <;> rfl

theorem rp_slotBase_getElem? {fs : List FieldDesc} {f : FieldDesc} {cur : Val} {slots : List Val} {k : Nat} {y : Val}
    (h : (slotBase fs f cur slots)[k]? = some y) :
    ∃ x, slots[k]? = some x ∧ (y = x ∨ ∃ f', fs[k]? = some f' ∧ (∃ g, f'.group? = some g) ∧ y = .none) := by
  unfold slotBase at h
  split at h
  · rename_i g _
    split at h
    · exact ⟨y, h, Or.inl rfl⟩
    · simp only [clearGroup, List.getElem?_map, Option.map_eq_some_iff] at h
      obtain ⟨q, hq, rfl⟩ := h
      obtain ⟨hf', hx⟩ := List.getElem?_zip_eq_some.1 hq
      refine ⟨q.2, hx, ?_⟩
      cases hg : q.1.group? == some g
      · exact Or.inl (by simp)
      · exact Or.inr ⟨q.1, hf', ⟨g, by simpa using hg⟩, by simp⟩
  · exact ⟨y, h, Or.inl rfl⟩

theorem rp_all_put {p : Val → Bool} (kk : Kind) {es : List Val} (k v : Val) (h : es.all p = true)
    (hx : p (.entry k v) = true) : (sortEntries kk (mapPut (kbeqOf kk) es k v)).all p = true := by
  have := all_mapPut (kbeqOf kk) es k v h hx
  rw [List.all_eq_true] at this ⊢
  exact fun e he => this e ((sortEntries_perm kk _).mem_iff.1 he)

/-! ### the element loops

  `P`: an invariant of the element list (for the two list loops also of the number of iterations still to run). -/

section
variable {p : Ev → Bool} {o : GenOpts} {E : List Int} {S : Schema}

theorem rp_inv_listScalars {sp : Val → Prop} {k : Kind} (hg : ∀ ds, Post p (genScalar o E k ds) sp)
    (P : Nat → List Val → Prop) (happ : ∀ n es v, P (n+1) es → sp v → P n (es ++ [v])) :
    ∀ (n : Nat) (es : List Val) (ds : List Draw), P n es → Post p (listScalars o E k n es ds) (P 0)
  | 0, _, _, h => Post.ok h
  | n+1, es, ds, h => (hg ds).bind (fun v rest hv => rp_inv_listScalars hg P happ n _ rest (happ n es v h hv))

/-- `C r`: what is known of the outcome `r` of the child on a new empty message -/
theorem rp_inv_listMsgs {child : Nat → Val → List Draw → R (Bool × Val)} {mi : Nat} {C : Bool × Val → Prop}
    (hc : ∀ ds, Post p (child mi (emptyMsg S mi) ds) C)
    (P : Nat → List Val → Prop) (happ : ∀ n es r, P (n+1) es → C r → r.1 = true → P n (es ++ [r.2]))
    (htrunc : ∀ n es r i, P (n+1) es → C r → r.1 = false → P n ((es ++ [r.2]).take i)) :
    ∀ (n i : Nat) (es : List Val) (ds : List Draw), P n es → Post p (listMsgs S child mi n i es ds) (P 0)
  | 0, _, _, _, h => Post.ok h
  | n+1, i, es, ds, h => by
    simp only [listMsgs]
    refine (hc ds).bind (fun r rest hr => ?_)
    split
    · rename_i h1
      exact rp_inv_listMsgs hc P happ htrunc n (i+1) _ rest (happ n es r h hr h1)
    · rename_i h1
      split
      · exact rp_inv_listMsgs hc P happ htrunc n (i+1) _ rest (htrunc n es r i h hr (by simpa using h1))
      · exact Post.stuck

theorem rp_inv_mapScalars {spk spv : Val → Prop} {kk vk : Kind} (hk : ∀ ds, Post p (genScalar o E kk ds) spk)
    (hv : ∀ ds, Post p (genScalar o E vk ds) spv) (P : List Val → Prop)
    (hput : ∀ es k v, P es → spk k → spv v → P (sortEntries kk (mapPut (kbeqOf kk) es k v))) :
    ∀ (n : Nat) (es : List Val) (ds : List Draw), P es → Post p (mapScalars o E kk vk n es ds) P
  | 0, _, _, h => Post.ok h
  | n+1, es, ds, h => (hk ds).bind (fun k rest hk' => (hv rest).bind (fun v rest' hv' =>
      rp_inv_mapScalars hk hv P hput n _ rest' (hput es k v h hk' hv')))

/-- `C0` / `C`: what the child needs of the message it is given (`hcur`: the value `m.Mutable(key)` returns
    has it) and establishes for the message it returns -/
theorem rp_inv_mapMsgs {child : Nat → Val → List Draw → R (Bool × Val)} {spk : Val → Prop} {kk : Kind} {mi : Nat}
    {C0 C : Val → Prop} (hk : ∀ ds, Post p (genScalar o E kk ds) spk)
    (hc : ∀ v ds, C0 v → Post p (child mi v ds) (fun r => C r.2)) (P : List Val → Prop)
    (hcur : ∀ es k, P es → C0 (valueOr (findEntry kk es k) (emptyMsg S mi)))
    (hput : ∀ es k v, P es → spk k → C v → P (sortEntries kk (mapPut (kbeqOf kk) es k v)))
    (hdel : ∀ es k, P es → P (mapDel kk es k)) :
    ∀ (n : Nat) (es : List Val) (ds : List Draw), P es → Post p (mapMsgs S o E child kk mi n es ds) P
  | 0, _, _, h => Post.ok h
  | n+1, es, ds, h => by
    simp only [mapMsgs]
    refine (hk ds).bind (fun k rest hk' => (hc _ rest (hcur es k h)).bind (fun r rest' hr => ?_))
    refine rp_inv_mapMsgs hk hc P hcur hput hdel n _ rest' ?_
    split
    · exact hput es k r.2 h hk' hr
    · exact hdel es k h
end

/-! ### the field loop -/

section
variable {p : Ev → Bool} {S : Schema} {o : GenOpts} {E : List Int}
  {child : Nat → Val → List Draw → R (Bool × Val)} {fs : List FieldDesc}

/-- `L0`: what is known of every slot before the loop; `L`: what `genSlot` establishes of the slot it fills.
    (`L0 = L`: a predicate the loop preserves.) `hnone` covers the slots `clearGroup` empties when another member
    of their oneof group is set. -/
theorem rp_loop_genFields (L0 L : FieldDesc → Val → Bool) (hweak : ∀ f x, L f x = true → L0 f x = true)
    (hnone : ∀ f, (∃ g, f.group? = some g) → L f .none = true)
    (hskip : ∀ f x, isMsgKind f = true → o.disallowNil = false → L0 f x = true → L f x = true)
    (hstep : ∀ f cur ds, Post p (genSlot S o E child f cur ds) (fun x => L0 f cur = true → L f x = true)) :
    ∀ (rem : List FieldDesc) (j : Nat) (slots : List Val) (ds : List Draw), fs.drop j = rem →
    (∀ (k : Nat) f x, fs[k]? = some f → slots[k]? = some x → L0 f x = true ∧ (k < j → L f x = true)) →
    Post p (genFields S o E child fs j rem slots ds) (fun slots' =>
      ∀ (k : Nat) f x, fs[k]? = some f → slots'[k]? = some x → L f x = true)
  | [], j, slots, ds, hdrop, hinv => by
    refine Post.ok (fun k f x hf hx => (hinv k f x hf hx).2 ?_)
    have : fs.length ≤ j := by simpa using hdrop
    have := (List.getElem?_eq_some_iff.1 hf).1
    omega
  | f :: rem, j, slots, ds, hdrop, hinv => by
    obtain ⟨hf, hdrop'⟩ := drop_eq_cons hdrop
    -- the invariant moves on by one slot when slot `j` satisfies `L` and the others are as before or cleared
    have next : ∀ (slots1 : List Val), (∀ x, slots1[j]? = some x → L f x = true) →
        (∀ k y, k ≠ j → slots1[k]? = some y → ∃ x, slots[k]? = some x ∧
          (y = x ∨ ∃ f', fs[k]? = some f' ∧ (∃ g, f'.group? = some g) ∧ y = .none)) →
        ∀ k f' y, fs[k]? = some f' → slots1[k]? = some y → L0 f' y = true ∧ (k < j + 1 → L f' y = true) := by
      intro slots1 hj hfr k f' y hf' hy
      by_cases hkj : k = j
      · subst hkj
        cases hf.symm.trans hf'
        exact ⟨hweak _ _ (hj y hy), fun _ => hj y hy⟩
      · obtain ⟨x, hx, rfl | ⟨f'', hf'', hg, rfl⟩⟩ := hfr k y hkj hy
        · exact ⟨(hinv k f' y hf' hx).1, fun hlt => (hinv k f' y hf' hx).2 (by omega)⟩
        · cases hf'.symm.trans hf''
          exact ⟨hweak _ _ (hnone f' hg), fun _ => hnone f' hg⟩
    simp only [genFields]
    refine (Post.any _).bind (fun g rest _ => ?_)
    split
    · -- the field is skipped
      rename_i hsk
      simp only [Bool.and_eq_true, Bool.not_eq_true'] at hsk
      exact rp_loop_genFields L0 L hweak hnone hskip hstep rem (j+1) slots rest hdrop'
        (next slots (fun x hx => hskip _ _ hsk.1.2 hsk.2 (hinv j f x hf hx).1) (fun k y _ hy => ⟨y, hy, Or.inl rfl⟩))
    · rw [rp_genField_eq]
      refine Post.bind (Q1 := fun s => ∃ x, s = (slotBase fs f (slots.getD j .none) slots).set j x ∧
        (L0 f (slots.getD j .none) = true → L f x = true))
        (Post.map ((hstep f _ rest).mono (fun x hx => ⟨x, rfl, hx⟩))) ?_
      rintro _ rest' ⟨x, rfl, h1⟩
      refine rp_loop_genFields L0 L hweak hnone hskip hstep rem (j+1) _ rest' hdrop'
        (next _ (fun y hy => ?_) (fun k y hkj hy => ?_))
      · -- slot `j` exists: it holds the new value, computed from the old one
        rw [List.getElem?_set_self'] at hy
        cases hb : (slotBase fs f (slots.getD j .none) slots)[j]? with
        | none => rw [hb] at hy; cases hy
        | some z =>
          rw [hb] at hy
          cases hy
          obtain ⟨x0, hx0, _⟩ := rp_slotBase_getElem? hb
          have hcur : slots.getD j .none = x0 := by rw [List.getD_eq_getElem?_getD, hx0]; rfl
          exact h1 (by rw [hcur]; exact (hinv j f x0 hf hx0).1)
      · rw [List.getElem?_set_ne (fun h => hkj h.symm)] at hy
        exact rp_slotBase_getElem? hy
end

/-! ### `setFields` and `generate` -/

/-- out of fuel the replay is `stuck`, of which `Post` says nothing: two cases are left -/
theorem Post.setFields_cases {p : Ev → Bool} {S : Schema} {o : GenOpts} {E : List Int} {fuel depth i : Nat} {v : Val}
    {ds : List Draw} {Q : Bool × Val → Prop} (hb : depth > Extracted.depthLimit → Q (false, v))
    (hw : depth ≤ Extracted.depthLimit →
      Post p (genFields S o E (setFields S o E (fuel - 1) (depth+1)) (S.msg i).fields 0 (S.msg i).fields v.slots ds)
        (fun slots => Q (true, .msg slots v.unknown))) :
    Post p (setFields S o E fuel depth i v ds) Q := by
  cases fuel with
  | zero =>
    simp only [setFields]
    split
    · exact Post.ok (hb ‹_›)
    · exact Post.stuck
  | succ fuel =>
    simp only [setFields]
    split
    · exact Post.ok (hb ‹_›)
    · exact (hw (by omega)).map

theorem rp_setFields_out (S : Schema) (o : GenOpts) (E : List Int) (fuel depth i : Nat) (v : Val)
    (ds : List Draw) : Post (fun _ => true) (setFields S o E fuel depth i v ds) (fun r =>
      r.2.unknown = v.unknown ∧ r.1 = decide (depth ≤ Extracted.depthLimit) ∧
        (r.1 = true → r.2.isNone = false) ∧ (r.1 = false → r.2 = v)) :=
  Post.setFields_cases (fun h => ⟨rfl, by simp; omega, by simp, fun _ => rfl⟩)
    (fun h => (Post.any _).mono (fun _ _ => ⟨rfl, by simp [h], fun _ => rfl, fun h => by cases h⟩))

theorem rp_slots_setFields {p : Ev → Bool} (S : Schema) (o : GenOpts) (E : List Int) (L0 L : FieldDesc → Val → Bool)
    (fuel depth i : Nat) (v : Val) (ds : List Draw) (hweak : ∀ f x, L f x = true → L0 f x = true)
    (hnone : ∀ f, (∃ g, f.group? = some g) → L f .none = true)
    (hskip : ∀ f x, isMsgKind f = true → o.disallowNil = false → L0 f x = true → L f x = true)
    (hstep : ∀ f cur ds, Post p (genSlot S o E (setFields S o E (fuel - 1) (depth+1)) f cur ds)
      (fun x => L0 f cur = true → L f x = true))
    (h0 : ((S.msg i).fields.zip v.slots).all (fun q => L0 q.1 q.2) = true) :
    Post p (setFields S o E fuel depth i v ds) (fun r => r.1 = true →
      ((S.msg i).fields.zip r.2.slots).all (fun q => L q.1 q.2) = true) := by
  refine Post.setFields_cases (fun _ h => by cases h) (fun _ => ?_)
  refine (rp_loop_genFields L0 L hweak hnone hskip hstep _ 0 v.slots ds (by simp)
    (fun k f x hf hx => ⟨forall_mem_zip (P := fun f x => L0 f x = true) |>.1 (List.all_eq_true.1 h0) k f x hf hx,
      fun h => absurd h (Nat.not_lt_zero k)⟩)).mono
    (fun slots' h' _ => ?_)
  exact List.all_eq_true.2 (forall_mem_zip (P := fun f x => L f x = true) |>.2 h')

/-- `G d`: nothing is claimed of a message filled at depth `d` (the guard in front of `nelLocal`, `mapLocal`:
    beyond the limit; of `nonilLocal`: from the limit on) -/
theorem rp_local_setFields {p : Ev → Bool} (S : Schema) (o : GenOpts) (E : List Int) (G : Nat → Bool)
    (hG : ∀ d, d > Extracted.depthLimit → G d = true)
    (L0 L : Nat → FieldDesc → Val → Bool) (hweak : ∀ d f x, L d f x = true → L0 d f x = true)
    (hnone : ∀ d f, (∃ g, f.group? = some g) → L d f .none = true)
    (hskip : ∀ d f x, isMsgKind f = true → o.disallowNil = false → L0 d f x = true → L d f x = true)
    (hstep : ∀ fuel depth f cur ds, G depth = false →
      Post p (genSlot S o E (setFields S o E fuel (depth+1)) f cur ds)
        (fun x => L0 depth f cur = true → L depth f x = true))
    (fuel depth i : Nat) (v : Val) (ds : List Draw)
    (h0 : (G depth || ((S.msg i).fields.zip v.slots).all (fun q => L0 depth q.1 q.2)) = true) :
    Post p (setFields S o E fuel depth i v ds) (fun r =>
      (G depth || ((S.msg i).fields.zip r.2.slots).all (fun q => L depth q.1 q.2)) = true) := by
  cases hg : G depth with
  | true => exact (Post.any _).mono (fun _ _ => rfl)
  | false =>
    have hd : depth ≤ Extracted.depthLimit := Nat.le_of_not_lt (fun h => by simp [hG depth h] at hg)
    rw [hg, Bool.false_or] at h0
    refine ((rp_slots_setFields S o E (L0 depth) (L depth) fuel depth i v ds (hweak depth) (hnone depth) (hskip depth)
      (fun f cur ds' => hstep _ depth f cur ds' hg) h0).and
      (Post.of_all (rp_setFields_out S o E fuel depth i v ds))).mono (fun r h => h.1 ?_)
    rw [h.2.2.1]
    exact decide_eq_true hd

section
variable {S : Schema} {o : GenOpts} {E : List Int} {i : Nat} {ds : List Draw} {v : Val} {rest : List Draw}
  {tr : List Ev}

theorem rp_generate_ok (h : generate S o E i ds = .ok v rest tr) :
    rest = [] ∧ ∃ ds0 r tr0 tr1, setFields S o E (fuelFor 0) 0 i (emptyMsg S i) ds0 = .ok r [] tr1 ∧ v = r.2 ∧
      tr = tr0 ++ tr1 := by
  obtain ⟨_, ds0, tr0, trB, -, hB, rfl⟩ := R.bind_eq_ok h
  obtain ⟨r, rest', tr1, trC, hS, hC, rfl⟩ := R.bind_eq_ok hB
  cases rest' with
  | nil => cases hC; exact ⟨rfl, ds0, r, tr0, tr1, hS, rfl, by simp⟩
  | cons d rest' => cases hC

/-- What `setFields` establishes of a new message, whatever draws it is given, holds of what `generate` returns.
    Use it with `apply`: elaborated as a term, `Q` is not found from a goal that mentions `v`. -/
theorem rp_generate_post {p : Ev → Bool} {Q : Val → Prop} (h : generate S o E i ds = .ok v rest tr) (hin : InRP p tr)
    (hQ : ∀ ds0, Post p (setFields S o E (fuelFor 0) 0 i (emptyMsg S i) ds0) (fun r => Q r.2)) : Q v := by
  obtain ⟨-, ds0, r, tr0, tr1, h', rfl, rfl⟩ := rp_generate_ok h
  exact hQ ds0 r [] tr1 h' hin.right
end

end Pulsar.Rapidproto
