/-
  Pulsar.Proofs.DecodeDepth — nesting depth of decoded values against the recursion budget (C06_depth_bounded).
  A depth bound `N` is an ordinary invariant of the decoder: what goes in is at most `N` deep, so what comes out is.
-/
import Pulsar.Proofs.ValDepth
import Pulsar.Proofs.DecodeFuel
namespace Pulsar

theorem depth_orEmpty_le (S : Schema) (e : Elem) (v : Val) : (e.orEmpty S v).depth ≤ max v.depth 1 := by
  unfold Elem.orEmpty
  split
  · split
    · rw [depth_emptyMsg]
      omega
    · omega
  · omega

theorem depth_zeroVar (e : Elem) : e.zeroVar.depth = 0 := by
  unfold Elem.zeroVar
  split <;> (try split) <;> simp

section
variable {N : Nat}

theorem depth_setSlot_le {m v : Val} (j : Nat) (hm : m.depth ≤ N) (hv : 1 + v.depth ≤ N) : (m.setSlot j v).depth ≤ N := by
  cases m with
  | msg s u =>
    simp only [Val.setSlot, Val.depth_msg] at hm ⊢
    have : Val.depthList (s.set j v) ≤ N - 1 := Val.depthList_le fun x hx => by
      rcases List.mem_or_eq_of_mem_set hx with h | rfl
      · have := Val.depth_le_depthList h; omega
      · omega
    omega
  | _ => exact hm

theorem depthList_clearGroup_le (fs : List FieldDesc) (g : Nat) (slots : List Val) :
    Val.depthList (clearGroup fs g slots) ≤ Val.depthList slots := by
  apply Val.depthList_le
  intro x hx
  simp only [clearGroup, List.mem_map] at hx
  obtain ⟨p, hp, rfl⟩ := hx
  split
  · simp
  · exact Val.depth_le_depthList (List.of_mem_zip hp).2

theorem depth_storeSlot_le (fs : List FieldDesc) (f : FieldDesc) (j : Nat) {m v : Val} (hm : m.depth ≤ N)
    (hv : 1 + v.depth ≤ N) : (storeSlot fs f j m v).depth ≤ N := by
  unfold storeSlot
  split
  · rename_i g _
    refine depth_setSlot_le j ?_ hv
    have h2 := depthList_clearGroup_le fs g m.slots
    have h3 := depthList_slots_le m
    simp only [Val.depth_msg]
    omega
  · exact depth_setSlot_le j hm hv

theorem depth_target_le (f : FieldDesc) {cur : Val} (h : cur.depth ≤ N) : (f.target cur).depth ≤ N := by
  unfold FieldDesc.target
  split
  · exact h
  · split
    · simpa using h
    · exact Nat.zero_le _
  · exact Nat.zero_le _

theorem depth_put_le (f : FieldDesc) {cur v : Val} (hc : cur.depth ≤ N) (hv : v.depth ≤ N) : (f.put cur v).depth ≤ N := by
  unfold FieldDesc.put
  split
  · simpa using hv
  · have := Val.depthList_elems_le cur
    simp only [Val.depth_list, Val.depthList_append, Val.depthList_cons, Val.depthList_nil]
    omega
  · exact hv

theorem depthList_mapPut_le (kb : Val → Val → Bool) {es : List Val} {k v : Val} (hes : Val.depthList es ≤ N)
    (hk : k.depth ≤ N) (hv : v.depth ≤ N) : Val.depthList (mapPut kb es k v) ≤ N :=
  Val.depthList_le fun x hx => by
    rcases mem_mapPut hx with h | rfl
    · exact Nat.le_trans (Val.depth_le_depthList h) hes
    · simp only [Val.depth_entry]
      omega

end

theorem implReadScalar_depth {k : Kind} {rest : Bytes} {v : Val} {r : Bytes}
    (h : implReadScalar k rest = .ok (v, r)) : v.depth = 0 := by
  rcases implReadScalar_eq_ok h with ⟨_, _, _, _, _, rfl⟩ | ⟨_, _, _, rfl⟩ | ⟨_, _, rfl⟩ <;> rfl

section child
variable {c : Nat → Val → Bytes → Res Val} {b N : Nat}

/-- whenever the child decoder succeeds on a non-nil target, `1 ≤ b` and it has added at most `b`
    levels below that target (a child whose budget is exhausted never succeeds: `b = 0` is allowed) -/
def ChildDepth (c : Nat → Val → Bytes → Res Val) (b : Nat) : Prop :=
  ∀ i into p v, into.isNone = false → c i into p = .ok v → 1 ≤ b ∧ v.depth ≤ max into.depth b

theorem implReadMapField_depth (hc : ChildDepth c b) (hb : b ≤ N) {S : Schema} {e : Elem} {old : Val} {rest : Bytes}
    {v : Val} {r : Bytes} (ho : old.depth ≤ N) (h : implReadMapField c S e old rest = .ok (v, r)) : v.depth ≤ N := by
  cases e with
  | scalar k => rw [implReadScalar_depth h]; exact Nat.zero_le _
  | message i =>
    rw [implReadMapField_message] at h
    obtain ⟨⟨p, r0⟩, _, h⟩ := Res.bind_eq_ok.1 h
    obtain ⟨w, hcv, h⟩ := Res.mapR_eq_ok.1 h
    cases h
    obtain ⟨hb1, this⟩ := hc _ _ _ _ (Elem.orEmpty_isNone _ _ _) hcv
    have := depth_orEmpty_le S (.message i) old
    omega

theorem implEntryLoop_depth (hc : ChildDepth c b) (hb : b ≤ N) {S : Schema} {kk : Kind} {e : Elem}
    {fuel : Nat} {rest : Bytes} {rem : Nat} {k v k' v' : Val} (hk : k.depth = 0) (hv : v.depth ≤ N)
    (h : implEntryLoop c S kk e fuel rest rem k v = .ok (k', v')) : k'.depth = 0 ∧ v'.depth ≤ N :=
  implEntryLoop_inv (P := fun k' v' => k'.depth = 0 ∧ v'.depth ≤ N)
    (fun hp hr => ⟨implReadScalar_depth hr, hp.2⟩)
    (fun hp hr => ⟨hp.1, implReadMapField_depth hc hb hp.2 hr⟩) ⟨hk, hv⟩ h

/-- `hmap`: a map entry whose value was never sent still gets its empty message, a level that costs no budget -/
theorem SlotRead.depth (hc : ChildDepth c b) (hb : b ≤ N) {S : Schema} {f : FieldDesc} {cur : Val} {rest : Bytes}
    {v : Val} {r : Bytes} (hmap : 1 ≤ b ∨ ∀ kk, f.shape = .map kk → ∃ k, f.elem = .scalar k)
    (hcur : cur.depth ≤ N) (h : SlotRead S c f cur rest v r) : v.depth ≤ N := by
  have helems := Nat.le_trans (Val.depthList_elems_le cur) hcur
  cases h with
  | elem hsh hr => exact depth_put_le f hcur (implReadMapField_depth hc hb (depth_target_le f hcur) hr)
  | @packed pk k n r0 vs r' hsh hel hn hp =>
    have : Val.depthList vs ≤ 0 := Val.depthList_le fun x hx => by
      rcases implPackedLoop_mem hp x hx with h | ⟨_, _, h⟩
      · cases h
      · rw [implReadScalar_depth h]; exact Nat.le_refl _
    simp only [Val.depth_list, Val.depthList_append]
    omega
  | @entry kk n r0 k' v' hsh hn he =>
    obtain ⟨hk', hv'⟩ := implEntryLoop_depth hc hb (depth_zeroVar _) (by rw [depth_zeroVar]; exact Nat.zero_le _) he
    have hv : (f.elem.orEmpty S v').depth ≤ N := by
      rcases hmap with hb1 | hm
      · have := depth_orEmpty_le S f.elem v'
        omega
      · obtain ⟨k, hk⟩ := hm kk hsh
        rw [hk]
        exact hv'
    simpa using depthList_mapPut_le (kbeqOf kk) helems (by omega) hv

theorem implUnmarshalLoop_depth (hc : ChildDepth c b) {S : Schema} {i : Nat} {o : UOpts}
    (hmap : 1 ≤ b ∨ ∀ f ∈ (S.msg i).fields, ∀ kk, f.shape = .map kk → ∃ k, f.elem = .scalar k)
    {fuel : Nat} {m : Val} {rest : Bytes} {v : Val}
    (h : implUnmarshalLoop S i o c fuel m rest = .ok v) : v.depth ≤ max m.depth (1 + b) :=
  implUnmarshalLoop_inv (P := fun v => v.depth ≤ max m.depth (1 + b))
    (fun {m' j _ _ _ _} hm hf hs => by
      -- the slot lies one level below the message, so its new value may be `b` deep
      have hb : 1 + b ≤ max m.depth (1 + b) := Nat.le_max_right _ _
      generalize max m.depth (1 + b) = N at hb hm ⊢
      have hslot := depth_slot_lt m' j
      have := hs.depth (N := N - 1) hc (by omega) (hmap.imp id fun hm => hm _ (List.mem_of_getElem? hf)) (by omega)
      exact depth_storeSlot_le _ _ j hm (by omega))
    (fun {m'} u hm => by
      have := depthList_slots_le m'
      simp only [Val.depth_msg]
      omega)
    (Nat.le_max_left _ _) h

end child

/-- levels a decode with budget `d` may add below its target (0 reads as the default 10000; an
    exhausted budget adds nothing), not counting the empty message that the map code allocates for an
    entry without a value field, which costs no budget -/
def exactBound (d : Int) : Nat := if d < 0 then 0 else if d = 0 then 10000 else d.toNat

theorem exactBound_pos (d : Nat) (hd : 1 ≤ d) : exactBound (d : Int) = d := by
  unfold exactBound
  have h1 : ¬ ((d : Int) < 0) := by omega
  have h2 : ¬ ((d : Int) = 0) := by omega
  simp only [h1, h2, if_false, Int.toNat_natCast]

theorem exactBound_nestedLimit {d : Int} (h : ¬ d < 0) :
    1 + exactBound (nestedLimit d) = exactBound d ∧ (d ≠ 1 → 1 ≤ exactBound (nestedLimit d)) := by
  by_cases h0 : d = 0
  · subst h0
    decide
  by_cases h1 : d = 1
  · subst h1
    decide
  rw [nestedLimit_of_two_le (by omega)]
  unfold exactBound
  rw [if_neg (by omega), if_neg (by omega), if_neg h, if_neg h0]
  omega

/-- one level more than the budget: the map allocation -/
theorem implUnmarshalClosure_depth (S : Schema) (o : UOpts) : ∀ (fuel : Nat) (d : Int),
    ChildDepth (implUnmarshalClosure S o fuel d) (exactBound d + 1) := by
  intro fuel
  induction fuel with
  | zero =>
    intro d i into p v _ h
    simp only [implUnmarshalClosure, Res.ok.injEq] at h
    subst h; omega
  | succ fuel ih =>
    intro d i into p v _ h
    rcases implUnmarshalClosure_succ_eq_ok h with ⟨_, rfl⟩ | ⟨_, hd, h⟩
    · omega
    · have := implUnmarshalLoop_depth (ih (nestedLimit d)) (Or.inl (Nat.le_add_left 1 _)) h
      have := (exactBound_nestedLimit hd).1
      omega

/-- no map field of the schema has a message value type -/
def NoMsgMap (S : Schema) : Prop :=
  ∀ i, ∀ f ∈ (S.msg i).fields, ∀ kk, f.shape = .map kk → ∃ k, f.elem = .scalar k

theorem implUnmarshalClosure_depth_exact (S : Schema) (hS : NoMsgMap S) (o : UOpts) :
    ∀ (fuel : Nat) (d : Int) (i : Nat) (into : Val) (bs : Bytes) (v : Val), bs.length + 1 ≤ fuel →
      implUnmarshalClosure S o fuel d i into bs = .ok v → v.depth ≤ max into.depth (exactBound d) := by
  intro fuel
  induction fuel with
  | zero => intro d i into bs v hf; omega
  | succ fuel ih =>
    intro d i into bs v hf h
    rcases implUnmarshalClosure_succ_eq_ok h with ⟨_, rfl⟩ | ⟨_, hd, h⟩
    · omega
    -- the child is only called on payloads shorter than `bs`
    rw [implUnmarshalLoop_congr (L := bs.length) (c2 := fun i' into' p =>
          if p.length < bs.length then implUnmarshalClosure S o fuel (nestedLimit d) i' into' p else .err .other)
        (by intro i' into' p hp; simp [hp]) S i o _ _ _ (Nat.le_refl _)] at h
    have hc : ChildDepth (fun i' into' p =>
          if p.length < bs.length then implUnmarshalClosure S o fuel (nestedLimit d) i' into' p else .err .other)
        (exactBound (nestedLimit d)) := by
      intro i' into' p v' hn h'
      simp only [] at h'
      split at h'
      · rename_i hp
        refine ⟨?_, ih _ _ _ _ _ (by omega) h'⟩
        by_cases h1 : d = 1
        · -- exhausted budget: the child cannot have succeeded
          exfalso
          subst h1
          cases fuel with
          | zero => omega
          | succ fuel =>
            rcases implUnmarshalClosure_succ_eq_ok h' with ⟨hn', _⟩ | ⟨_, hd', _⟩
            · rw [hn] at hn'
              cases hn'
            · exact hd' (by decide)
        · exact (exactBound_nestedLimit hd).2 h1
      · simp at h'
    have := implUnmarshalLoop_depth hc (Or.inr (hS i)) h
    have := (exactBound_nestedLimit hd).1
    omega

end Pulsar
