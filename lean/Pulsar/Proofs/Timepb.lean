/-
  Pulsar.Proofs.Timepb — helper lemmas for C17 (timepb arithmetic): `compare` by cases, `overflowPanics` and
  `durationIsNegative` as conditions on the fields, and the characterisation of `add` (`add_main`) from which every
  C17 theorem about `Add` follows.
-/
import Pulsar.Timepb
import Pulsar.Proofs.Wrap
namespace Pulsar.Timepb

theorem compare_lt {a b : SN} (h : a.sec < b.sec ∨ (a.sec = b.sec ∧ a.nanos < b.nanos)) :
    compare a b = -1 := by
  unfold compare
  rw [if_neg (by omega), if_pos h]

theorem compare_eq {a b : SN} (h : a.sec = b.sec ∧ a.nanos = b.nanos) : compare a b = 0 := by
  unfold compare
  rw [if_pos h]

theorem compare_gt {a b : SN} (h : b.sec < a.sec ∨ (a.sec = b.sec ∧ b.nanos < a.nanos)) :
    compare a b = 1 := by
  unfold compare
  rw [if_neg (by omega), if_neg (by omega)]

theorem compare_cases (a b : SN) :
    (compare a b = -1 ∧ (a.sec < b.sec ∨ (a.sec = b.sec ∧ a.nanos < b.nanos))) ∨
    (compare a b = 0 ∧ a.sec = b.sec ∧ a.nanos = b.nanos) ∨
    (compare a b = 1 ∧ (b.sec < a.sec ∨ (a.sec = b.sec ∧ b.nanos < a.nanos))) := by
  by_cases h1 : a.sec < b.sec ∨ (a.sec = b.sec ∧ a.nanos < b.nanos)
  · exact Or.inl ⟨compare_lt h1, h1⟩
  · by_cases h2 : a.sec = b.sec ∧ a.nanos = b.nanos
    · exact Or.inr (Or.inl ⟨compare_eq h2, h2⟩)
    · have h3 : b.sec < a.sec ∨ (a.sec = b.sec ∧ b.nanos < a.nanos) := by omega
      exact Or.inr (Or.inr ⟨compare_gt h3, h3⟩)

theorem overflowPanics_iff (a b : SN) (neg : Bool) :
    overflowPanics a b neg = true ↔
      if neg then a.sec < b.sec ∨ (a.sec = b.sec ∧ a.nanos < b.nanos)
      else b.sec < a.sec ∨ (a.sec = b.sec ∧ b.nanos < a.nanos) := by
  -- `compare a b` is -1, 0 or 1, and says which way the pair is ordered
  have hc := compare_cases a b
  cases neg
  · simp only [overflowPanics, Bool.false_eq_true, if_false, decide_eq_true_eq]
    omega
  · simp only [overflowPanics, if_true, decide_eq_true_eq]
    omega

theorem durationIsNegative_iff (d : SN) :
    durationIsNegative d = true ↔ d.sec < 0 ∨ (d.sec = 0 ∧ d.nanos < 0) := by
  simp [durationIsNegative]

/-- the exact seconds of `t + d` do not fit in an int64 -/
def Overflows (t d : SN) : Prop :=
  (inst t + inst d) / 1000000000 < -9223372036854775808 ∨
  (inst t + inst d) / 1000000000 > 9223372036854775807

/-- the un-checked sum computed by `Add` before `overflowPanic` -/
def rawSum (t d : SN) : SN :=
  let s0 := wrap64 (t.sec + d.sec)
  let n0 := wrap32 (t.nanos + d.nanos)
  if n0 ≥ second then ⟨wrap64 (s0 + 1), wrap32 (n0 - second)⟩
  else if n0 < 0 then ⟨wrap64 (s0 - 1), wrap32 (n0 + second)⟩
  else ⟨s0, n0⟩

theorem add_some (t d : SN) :
    add (some t) d =
      if d.sec = 0 ∧ d.nanos = 0 then .ok (some t)
      else if overflowPanics t (rawSum t d) (durationIsNegative d) then .panic
      else .ok (some (rawSum t d)) := rfl

/-- seconds and nanoseconds of an instant given with a carry `c` out of the nanoseconds -/
theorem divmod_carry (s n c : Int) (h0 : 0 ≤ n - c * 1000000000) (h1 : n - c * 1000000000 < 1000000000) :
    (s * 1000000000 + n) / 1000000000 = s + c ∧ (s * 1000000000 + n) % 1000000000 = n - c * 1000000000 := by
  omega

theorem rawSum_spec (ts tn ds dn : Int) (hn : Normalised ⟨ts, tn⟩) (hd : ValidDur ⟨ds, dn⟩) :
    rawSum ⟨ts, tn⟩ ⟨ds, dn⟩ =
      ⟨wrap64 ((ts * 1000000000 + tn + (ds * 1000000000 + dn)) / 1000000000),
        (ts * 1000000000 + tn + (ds * 1000000000 + dn)) % 1000000000⟩ := by
  simp only [Normalised, ValidDur] at hn hd
  rw [show ts * 1000000000 + tn + (ds * 1000000000 + dn) = (ts + ds) * 1000000000 + (tn + dn) from by omega]
  simp only [rawSum, second, wrap32_id (x := tn + dn) (by omega) (by omega)]
  -- the three arms of `Add` are the carries 1, -1 and 0; after `divmod_carry` only arithmetic on literals is left
  by_cases h1 : tn + dn ≥ 1000000000
  · obtain ⟨hq, hr⟩ := divmod_carry (ts + ds) (tn + dn) 1 (by omega) (by omega)
    rw [if_pos h1, wrap64_wrap64_add, wrap32_id (by omega) (by omega), hq, hr]; rfl
  · rw [if_neg h1]
    by_cases h2 : tn + dn < 0
    · obtain ⟨hq, hr⟩ := divmod_carry (ts + ds) (tn + dn) (-1) (by omega) (by omega)
      rw [if_pos h2, wrap32_id (by omega) (by omega), Int.sub_eq_add_neg, wrap64_wrap64_add, hq, hr]
      rfl
    · obtain ⟨hq, hr⟩ := divmod_carry (ts + ds) (tn + dn) 0 (by omega) (by omega)
      rw [if_neg h2, hq, hr]; simp

theorem add_main (t d : SN) (ht : InRange t) (hn : Normalised t) (hd : ValidDur d) :
    (Overflows t d → add (some t) d = .panic) ∧
    (¬ Overflows t d → add (some t) d = .ok (some (addStdSpec t (inst d)))) := by
  obtain ⟨ts, tn⟩ := t; obtain ⟨ds, dn⟩ := d
  rw [add_some, rawSum_spec ts tn ds dn hn hd]
  simp only [Overflows, addStdSpec, inst, InRange, Normalised, ValidDur, overflowPanics_iff, durationIsNegative_iff]
    at ht hn hd ⊢
  by_cases h0 : ds = 0 ∧ dn = 0
  · -- `Add` returns `t` itself, which is its own normal form
    rw [if_pos h0]
    refine ⟨fun h => by omega, fun _ => ?_⟩
    rw [Res.ok.injEq, Option.some.injEq, SN.mk.injEq]
    omega
  · rw [if_neg h0]
    refine ⟨?_, fun h => ?_⟩
    · -- the seconds wrap once and land on the wrong side of `t`
      rintro (h | h)
      · rw [wrap64_lo (by omega) (by omega), if_pos (by split <;> omega)]
      · rw [wrap64_hi (by omega) (by omega), if_pos (by split <;> omega)]
    · -- nothing wraps, and the exact sum lies on the side of `t` the sign of `d` says
      rw [wrap64_id (by omega) (by omega), if_neg (by split <;> omega)]

theorem ValidTS.inRange {t : SN} (h : ValidTS t) : InRange t := by
  simp only [ValidTS] at h; simp only [InRange]; omega

theorem ValidTS.normalised {t : SN} (h : ValidTS t) : Normalised t := by
  simp only [ValidTS] at h; simp only [Normalised]; omega

theorem ValidDur.inRange {d : SN} (h : ValidDur d) : InRange d := by
  unfold ValidDur at h; unfold InRange; omega

theorem valid_not_overflows {t d : SN} (ht : ValidTS t) (hd : ValidDur d) : ¬ Overflows t d := by
  simp only [ValidTS] at ht; simp only [ValidDur] at hd
  simp only [Overflows, inst]; omega

theorem inst_addStdSpec (t : SN) (dn : Int) : inst (addStdSpec t dn) = inst t + dn := by
  simp only [addStdSpec, inst]; omega

theorem normalised_addStdSpec (t : SN) (dn : Int) : Normalised (addStdSpec t dn) := by
  simp only [addStdSpec, Normalised]; omega

theorem add_valid {t d : SN} (ht : ValidTS t) (hd : ValidDur d) :
    add (some t) d = .ok (some (addStdSpec t (inst d))) :=
  (add_main t d ht.inRange ht.normalised hd).2 (valid_not_overflows ht hd)

theorem add_ok_inv {t d r : SN} (ht : InRange t) (hn : Normalised t) (hd : ValidDur d)
    (h : add (some t) d = .ok (some r)) : r = addStdSpec t (inst d) := by
  by_cases hov : Overflows t d
  · rw [(add_main t d ht hn hd).1 hov] at h; cases h
  · rw [(add_main t d ht hn hd).2 hov] at h
    injection h with h; injection h with h; exact h.symm

end Pulsar.Timepb
