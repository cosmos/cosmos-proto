/-
  Pulsar.Proofs.DecodeAlloc — the allocation-accounting decoder of `Pulsar.DecodeAlloc`
  (a) is the decoder of `Pulsar.Decode` (second components agree), and
  (b) allocates at most `Alloc.K` bytes per input byte, whatever the outcome.

  Both facts are proved together, function by function, over the one case analysis they share. (b) is a potential
  argument: what a run allocates plus `K` per byte it leaves is at most `K` per byte it was given (`Paid`).
-/
import Pulsar.DecodeAlloc
import Pulsar.Proofs.DecodeStep
namespace Pulsar
open Alloc

/-- `a`: allocated before the run `c`; a run that fails has consumed everything -/
def Paid {α : Type} (k : Nat) (rest : Bytes) (a : Nat) (c : Nat × Res (α × Bytes)) : Prop :=
  c.1 + k * c.2.remLen ≤ a + k * rest.length

theorem Paid.err {α : Type} {k : Nat} {rest : Bytes} {a b : Nat} (e : Err) (h : b ≤ a + k * rest.length) :
    Paid (α := α) k rest a (b, .err e) := by
  simp only [Paid, Res.remLen]
  omega

theorem Paid.panic {α : Type} {k : Nat} {rest : Bytes} {a b : Nat} (h : b ≤ a + k * rest.length) :
    Paid (α := α) k rest a (b, .panic) := by
  simp only [Paid, Res.remLen]
  omega

/-- the accounting run `c` is the plain run `x`, and has allocated at most `b` -/
def Accounts {α : Type} (c : Nat × Res α) (x : Res α) (b : Nat) : Prop := c.2 = x ∧ c.1 ≤ b

theorem Accounts.stop {α : Type} (a b : Nat) (x : Res α) : Accounts (a, x) x (a + b) :=
  ⟨rfl, Nat.le_add_right _ _⟩

theorem Accounts.ite {α : Type} {c : Prop} [Decidable c] {x x' : Nat × Res α} {y y' : Res α} {b : Nat}
    (h : c → Accounts x y b) (h' : ¬c → Accounts x' y' b) : Accounts (if c then x else x') (if c then y else y') b := by
  split
  · exact h ‹_›
  · exact h' ‹_›

theorem Accounts.mono {α : Type} {c : Nat × Res α} {x : Res α} {b b' : Nat} (h : Accounts c x b) (hb : b ≤ b') :
    Accounts c x b' :=
  ⟨h.1, Nat.le_trans h.2 hb⟩

/-! ## scalars and packed runs -/

theorem al_goSize_le (k : Kind) : k.goSize ≤ 24 := by cases k <;> decide

/-- a decoded scalar consumes its length prefix / first byte, plus every byte it copies -/
theorem al_readScalar_consume {k : Kind} {rest : Bytes} {v : Val} {r : Bytes}
    (h : implReadScalar k rest = .ok (v, r)) : v.blobLen + r.length + 1 ≤ rest.length := by
  rcases implReadScalar_eq_ok h with ⟨w, n, hw, _, hr, rfl⟩ | ⟨p, _, hr, rfl⟩ | ⟨n, hr, rfl⟩
  · have := readFixed_length hr
    simp only [Val.blobLen]
    omega
  · have := readLenDelim_length hr
    simp only [Val.blobLen]
    omega
  · have := readVarint_length hr
    simp only [Val.blobLen]
    omega

theorem al_appendCost_le (k : Kind) (v : Val) : appendCost k v ≤ 48 + v.blobLen := by
  have := al_goSize_le k
  simp only [appendCost, growFactor]
  omega

theorem al_packedLoop (k : Kind) : ∀ (fuel : Nat) (rest : Bytes) (rem : Nat) (acc : List Val) (a : Nat),
    (implPackedLoopAlloc k fuel rest rem acc a).2 = implPackedLoop k fuel rest rem acc ∧
      Paid 48 rest a (implPackedLoopAlloc k fuel rest rem acc a) := by
  intro fuel
  induction fuel with
  | zero =>
    intro rest rem acc a
    exact ⟨rfl, Nat.le_refl _⟩
  | succ fuel ih =>
    intro rest rem acc a
    rw [implPackedLoopAlloc, implPackedLoop]
    by_cases h0 : rem = 0
    · rw [if_pos h0, if_pos h0]
      exact ⟨rfl, Nat.le_refl _⟩
    rw [if_neg h0, if_neg h0]
    rcases hs : implReadScalar k rest with ⟨⟨v, r⟩⟩ | e | _
    · have h1 := al_readScalar_consume hs
      have h2 := al_appendCost_le k v
      obtain ⟨ih1, ih2⟩ := ih r (rem - (rest.length - r.length)) (acc ++ [v]) (a + appendCost k v)
      refine ⟨ih1, ?_⟩
      unfold Paid at ih2 ⊢
      dsimp only
      omega
    · exact ⟨rfl, Paid.err e (by omega)⟩
    · exact ⟨rfl, Paid.panic (by omega)⟩

theorem al_prealloc_le (k : Kind) (payload : Bytes) (curLen : Nat) :
    packedPrealloc k payload curLen ≤ 8 * payload.length := by
  unfold packedPrealloc
  split
  · have hc : payload.countP (fun b => b < 128) ≤ payload.length := List.countP_le_length
    cases k <;> dsimp only [packedElementCount, Kind.goSize] <;> omega
  · omega

/-! ## with a nested decoder `cA` that agrees with its plain counterpart and is paid for -/

section
variable {cA : Nat → Val → Bytes → Nat × Res Val}

/-- the lazily allocated message and what the nested decode allocates are paid by the length prefix and the payload -/
theorem al_readMapField (hc : ∀ i into p, (cA i into p).1 ≤ K * p.length)
    (S : Schema) (e : Elem) (old : Val) (rest : Bytes) :
    (implReadMapFieldAlloc cA S e old rest).2 = implReadMapField (fun i into p => (cA i into p).2) S e old rest ∧
      Paid K rest 0 (implReadMapFieldAlloc cA S e old rest) := by
  unfold implReadMapFieldAlloc implReadMapField
  cases e with
  | message i =>
    dsimp only
    rcases hr : readLenDelim rest with ⟨⟨p, r⟩⟩ | e | _
    · dsimp only
      have h1 := readLenDelim_length hr
      have h2 := hc i (if old.isNone then emptyMsg S i else old) p
      generalize cA i (if old.isNone then emptyMsg S i else old) p = c at h2 ⊢
      obtain ⟨a1, res⟩ := c
      have h3 : (if old.isNone = true then msgCost else 0) ≤ 64 := by split <;> simp [msgCost]
      simp only [K, callCost] at h2 ⊢
      cases res <;> exact ⟨rfl, by simp only [Paid, Res.remLen]; omega⟩
    · exact ⟨rfl, Paid.err e (by omega)⟩
    · exact ⟨rfl, Paid.panic (by omega)⟩
  | scalar k =>
    dsimp only
    rcases hs : implReadScalar k rest with ⟨⟨v, r⟩⟩ | e | _
    · have h1 := al_readScalar_consume hs
      exact ⟨rfl, by simp only [Paid, Res.remLen, K]; omega⟩
    · exact ⟨rfl, Paid.err e (by omega)⟩
    · exact ⟨rfl, Paid.panic (by omega)⟩

theorem al_entryLoop (hc : ∀ i into p, (cA i into p).1 ≤ K * p.length)
    (S : Schema) (kk : Kind) (e : Elem) :
    ∀ (fuel : Nat) (rest : Bytes) (rem : Nat) (k v : Val) (a : Nat),
    Accounts (implEntryLoopAlloc cA S kk e fuel rest rem k v a)
      (implEntryLoop (fun i into p => (cA i into p).2) S kk e fuel rest rem k v) (a + K * rest.length) := by
  intro fuel
  induction fuel with
  | zero =>
    intro rest rem k v a
    exact Accounts.stop _ _ _
  | succ fuel ih =>
    intro rest rem k v a
    rw [implEntryLoopAlloc, implEntryLoop]
    -- a key or a value read `c` (plain: `x`) that left `r'` of `r`, then the loop
    have read : ∀ (c : Nat × Res (Val × Bytes)) (x : Res (Val × Bytes)) (g : Val → Val × Val) (r : Bytes),
        r.length < rest.length → c.2 = x ∧ Paid K r 0 c →
        Accounts
          (match c.2 with
            | .ok (y, r') =>
              implEntryLoopAlloc cA S kk e fuel r' (rem - (rest.length - r'.length)) (g y).1 (g y).2 (a + c.1)
            | .err e => (a + c.1, .err e)
            | .panic => (a + c.1, .panic))
          (match x with
            | .ok (y, r') =>
              implEntryLoop (fun i into p => (cA i into p).2) S kk e fuel r' (rem - (rest.length - r'.length))
                (g y).1 (g y).2
            | .err e => .err e
            | .panic => .panic)
          (a + K * rest.length) := by
      intro c x g r hr hcx
      obtain ⟨rfl, hb⟩ := hcx
      obtain ⟨a1, res⟩ := c
      simp only [Paid, K] at hb ⊢
      rcases res with ⟨⟨y, r'⟩⟩ | e | _ <;> simp only [Res.remLen] at hb
      · obtain ⟨ih1, ih2⟩ := ih r' (rem - (rest.length - r'.length)) (g y).1 (g y).2 (a + a1)
        simp only [K] at ih2
        exact ⟨ih1, by dsimp only; omega⟩
      · exact ⟨rfl, by dsimp only; omega⟩
      · exact ⟨rfl, by dsimp only; omega⟩
    refine Accounts.ite (fun _ => Accounts.stop _ _ _) fun _ => ?_
    rcases hv : readVarint rest with ⟨⟨wire, r⟩⟩ | e | _
    · have hr := readVarint_length hv
      refine Accounts.ite (fun _ => ?_) fun _ => Accounts.ite (fun _ => ?_) fun _ => ?_
      · exact read _ _ (fun k' => (k', v)) r hr (al_readMapField hc S (.scalar kk) k r)
      · exact read _ _ (fun v' => (k, v')) r hr (al_readMapField hc S e v r)
      · rcases skip rest with n | e | _
        · refine Accounts.ite (fun _ => Accounts.stop _ _ _) fun _ => (ih (rest.drop n) (rem - n) k v a).mono ?_
          simp only [List.length_drop, K]
          omega
        · exact Accounts.stop _ _ _
        · exact Accounts.stop _ _ _
    · exact Accounts.stop _ _ _
    · exact Accounts.stop _ _ _

/-- the `K` a record may overdraw is paid by the tag byte read before it -/
theorem al_knownField (hc : ∀ i into p, (cA i into p).1 ≤ K * p.length)
    (S : Schema) (fs : List FieldDesc) (j : Nat) (f : FieldDesc) (wt : Nat) (m : Val) (rest : Bytes) :
    (implKnownFieldAlloc S fs cA j f wt m rest).2 =
        implKnownField S fs (fun i into p => (cA i into p).2) j f wt m rest ∧
      Paid K rest K (implKnownFieldAlloc S fs cA j f wt m rest) := by
  -- nothing was allocated before a wrong wire type, a failed length prefix or a failed scalar read
  have err : ∀ e : Err, ((0, Res.err e) : Nat × Res (Val × Bytes)).2 = .err e ∧
      Paid K rest K ((0, Res.err e) : Nat × Res (Val × Bytes)) :=
    fun e => ⟨rfl, Paid.err e (Nat.zero_le _)⟩
  have panic : ((0, Res.panic) : Nat × Res (Val × Bytes)).2 = .panic ∧
      Paid K rest K ((0, Res.panic) : Nat × Res (Val × Bytes)) :=
    ⟨rfl, Paid.panic (Nat.zero_le _)⟩
  -- one scalar: the copy of a string or byte slice, and at most 96 bytes (an append, a oneof wrapper) for the byte read
  have scalar : ∀ {k : Kind} {v : Val} {r : Bytes} (total : Nat) (x : Val), implReadScalar k rest = .ok (v, r) →
      total ≤ 96 + v.blobLen → Paid K rest K (total, Res.ok (x, r)) := by
    intro k v r total x hs hx
    have := al_readScalar_consume hs
    simp only [Paid, Res.remLen, K]
    omega
  -- one nested message: the payload pays for the nested decode (`a1`), the tag and the length byte for 192 bytes more
  have message : ∀ {p r : Bytes} (a1 total : Nat) (y : Res (Val × Bytes)), readLenDelim rest = .ok (p, r) →
      a1 ≤ K * p.length → total ≤ 192 + a1 → y.remLen ≤ r.length → Paid K rest K (total, y) := by
    intro p r a1 total y hr h2 hx hy
    have h1 := readLenDelim_length hr
    simp only [Paid, K] at h2 ⊢
    omega
  have guard : ∀ {c : Prop} [Decidable c] {x x' : Nat × Res (Val × Bytes)} {y y' : Res (Val × Bytes)},
      (c → x.2 = y ∧ Paid K rest K x) → (¬c → x'.2 = y' ∧ Paid K rest K x') →
      (if c then x else x').2 = (if c then y else y') ∧ Paid K rest K (if c then x else x') := by
    intro c _ x x' y y' h h'
    split
    · exact h ‹_›
    · exact h' ‹_›
  obtain ⟨num, elem, shape⟩ := f
  cases shape with
  | singular =>
    cases elem with
    | scalar k =>
      simp only [implKnownFieldAlloc, implKnownField]
      refine guard (fun _ => err _) fun _ => ?_
      rcases hs : implReadScalar k rest with ⟨⟨v, r⟩⟩ | e | _
      · exact ⟨rfl, scalar _ _ hs (by omega)⟩
      · exact err e
      · exact panic
    | message i =>
      simp only [implKnownFieldAlloc, implKnownField]
      refine guard (fun _ => err _) fun _ => ?_
      rcases hr : readLenDelim rest with ⟨⟨p, r⟩⟩ | e | _
      · dsimp only
        have h2 := hc i (if (m.slot j).isNone then emptyMsg S i else m.slot j) p
        generalize cA i (if (m.slot j).isNone then emptyMsg S i else m.slot j) p = c at h2 ⊢
        obtain ⟨a1, res⟩ := c
        have h3 : (if (m.slot j).isNone = true then msgCost else 0) + callCost + a1 ≤ 192 + a1 := by
          split <;> simp [msgCost, callCost]
        cases res <;> exact ⟨rfl, message a1 _ _ hr h2 h3 (by simp [Res.remLen])⟩
      · exact err e
      · exact panic
  | oneof g =>
    cases elem with
    | scalar k =>
      simp only [implKnownFieldAlloc, implKnownField]
      refine guard (fun _ => err _) fun _ => ?_
      rcases hs : implReadScalar k rest with ⟨⟨v, r⟩⟩ | e | _
      · exact ⟨rfl, scalar _ _ hs (by simp [boxCost])⟩
      · exact err e
      · exact panic
    | message i =>
      simp only [implKnownFieldAlloc, implKnownField]
      refine guard (fun _ => err _) fun _ => ?_
      rcases hr : readLenDelim rest with ⟨⟨p, r⟩⟩ | e | _
      · dsimp only
        generalize hcq : cA i _ p = c
        have h2 : c.1 ≤ K * p.length := by rw [← hcq]; exact hc i _ p
        obtain ⟨a1, res⟩ := c
        -- a fresh message unless the member is the active one, the call, and the wrapper once the decode succeeded
        have h3 : ∀ box, box ≤ 32 →
            (match m.slot j with | .one x => (if x.isNone = true then msgCost else 0) | _ => msgCost) +
              callCost + a1 + box ≤ 192 + a1 := by
          intro box hbox
          split <;> (try split) <;> simp only [msgCost, callCost] <;> omega
        cases res with
        | ok v => exact ⟨rfl, message a1 _ _ hr h2 (h3 boxCost (by simp [boxCost])) (by simp [Res.remLen])⟩
        | err e => exact ⟨rfl, message a1 _ _ hr h2 (h3 0 (by omega)) (by simp [Res.remLen])⟩
        | panic => exact ⟨rfl, message a1 _ _ hr h2 (h3 0 (by omega)) (by simp [Res.remLen])⟩
      · exact err e
      · exact panic
  | repeated pk =>
    cases elem with
    | scalar k =>
      simp only [implKnownFieldAlloc, implKnownField]
      have append : (match implReadScalar k rest with
            | .ok (v, r) => (appendCost k v, Res.ok (m.setSlot j (.list true ((m.slot j).elems ++ [v])), r))
            | .err e => (0, .err e) | .panic => (0, .panic)).2 =
          (match implReadScalar k rest with
            | .ok (v, r) => Res.ok (m.setSlot j (.list true ((m.slot j).elems ++ [v])), r)
            | .err e => .err e | .panic => .panic) ∧
          Paid K rest K (match implReadScalar k rest with
            | .ok (v, r) => (appendCost k v, Res.ok (m.setSlot j (.list true ((m.slot j).elems ++ [v])), r))
            | .err e => (0, .err e) | .panic => (0, .panic)) := by
        rcases hs : implReadScalar k rest with ⟨⟨v, r⟩⟩ | e | _
        · have := al_appendCost_le k v
          exact ⟨rfl, scalar _ _ hs (by omega)⟩
        · exact err e
        · exact panic
      refine guard (fun _ => guard (fun _ => append) fun _ => guard (fun _ => ?_) fun _ => err _) fun _ =>
        guard (fun _ => err _) fun _ => append
      -- a packed run: the pre-allocation is at most 8 bytes per payload byte, the appends at most 48 per byte
      -- consumed, and a run that ends normally has consumed its payload
      rcases hv : readVarint rest with ⟨⟨n, r⟩⟩ | e | _
      · dsimp only
        have hr := readVarint_length hv
        refine guard (fun _ => err _) fun _ => guard (fun _ => err _) fun h5 => ?_
        have hpre := al_prealloc_le k (r.take n) (m.slot j).elems.length
        rw [List.length_take, Nat.min_eq_left (Nat.le_of_not_gt h5)] at hpre
        obtain ⟨hsnd, hb⟩ := al_packedLoop k n r n [] (packedPrealloc k (r.take n) (m.slot j).elems.length)
        have hcons : ∀ vs r', implPackedLoop k n r n [] = .ok (vs, r') → r'.length + n ≤ r.length :=
          fun _ _ h => implPackedLoop_consumed (Nat.le_refl _) h
        rw [← hsnd] at hcons ⊢
        generalize implPackedLoopAlloc k n r n [] _ = c at hb hcons ⊢
        obtain ⟨a1, res⟩ := c
        simp only [Paid] at hb
        rcases res with ⟨⟨vs, r'⟩⟩ | e | _ <;> simp only [Res.remLen] at hb
        · have := hcons vs r' rfl
          exact ⟨rfl, by simp only [Paid, Res.remLen, K]; omega⟩
        · exact ⟨rfl, Paid.err e (by simp only [K]; omega)⟩
        · exact ⟨rfl, Paid.panic (by simp only [K]; omega)⟩
      · exact err e
      · exact panic
    | message i =>
      simp only [implKnownFieldAlloc, implKnownField]
      refine guard (fun _ => err _) fun _ => ?_
      rcases hr : readLenDelim rest with ⟨⟨p, r⟩⟩ | e | _
      · dsimp only
        have h2 := hc i (emptyMsg S i) p
        generalize cA i (emptyMsg S i) p = c at h2 ⊢
        obtain ⟨a1, res⟩ := c
        have h3 : growFactor * ptrSize + msgCost + callCost + a1 ≤ 192 + a1 := by
          simp [growFactor, ptrSize, msgCost, callCost]
        cases res <;> exact ⟨rfl, message a1 _ _ hr h2 h3 (by simp [Res.remLen])⟩
      · exact err e
      · exact panic
  | map kk =>
    simp only [implKnownFieldAlloc, implKnownField]
    refine guard (fun _ => err _) fun _ => ?_
    rcases hv : readVarint rest with ⟨⟨n, r⟩⟩ | e | _
    · dsimp only
      have hr := readVarint_length hv
      refine guard (fun _ => err _) fun _ => guard (fun _ => err _) fun h5 => ?_
      -- the map header if the map is nil, the records of the entry, a message value that did not occur, a bucket
      -- for a new key: 384 bytes at most besides what the entry's own bytes pay for
      obtain ⟨hsnd, hb⟩ := al_entryLoop hc S kk elem n (r.take n) n (Elem.zeroVar (.scalar kk)) elem.zeroVar
        (match m.slot j with | .map true _ => 0 | _ => mapHdrCost)
      rw [List.length_take, Nat.min_eq_left (Nat.le_of_not_gt h5)] at hb
      have hhdr : (match m.slot j with | .map true _ => 0 | _ => mapHdrCost) ≤ 48 := by
        split <;> simp [mapHdrCost]
      rw [← hsnd]
      generalize implEntryLoopAlloc cA S kk elem n (r.take n) n _ _ _ = c at hb ⊢
      obtain ⟨a1, res⟩ := c
      simp only [K] at hb
      rcases res with ⟨⟨k', v'⟩⟩ | e | _
      · refine ⟨rfl, ?_⟩
        have hins : (if (m.slot j).elems.any (fun en => kbeqOf kk en.key k') = true then 0 else mapEntryCost) ≤ 272 := by
          split <;> simp [mapEntryCost]
        cases elem with
        | scalar vk =>
          simp only [Paid, Res.remLen, K, List.length_drop]
          omega
        | message mi =>
          have hfresh : (if v'.isNone = true then msgCost else 0) ≤ 64 := by split <;> simp [msgCost]
          simp only [Paid, Res.remLen, K, List.length_drop]
          omega
      · exact ⟨rfl, Paid.err e (by simp only [K]; omega)⟩
      · exact ⟨rfl, Paid.panic (by simp only [K]; omega)⟩
    · exact err e
    · exact panic

section
variable {S : Schema} {i : Nat} {o : UOpts}

theorem al_loop (hc : ∀ i into p, (cA i into p).1 ≤ K * p.length) :
    ∀ (fuel : Nat) (m : Val) (rest : Bytes) (a : Nat),
    Accounts (implUnmarshalLoopAlloc S i o cA fuel m rest a)
      (implUnmarshalLoop S i o (fun i into p => (cA i into p).2) fuel m rest) (a + K * rest.length) := by
  intro fuel
  induction fuel with
  | zero =>
    intro m rest a
    exact Accounts.stop _ _ _
  | succ fuel ih =>
    intro m rest a
    rw [implUnmarshalLoopAlloc, implUnmarshalLoop]
    refine Accounts.ite (fun _ => Accounts.stop _ _ _) fun _ => ?_
    rcases hv : readVarint rest with ⟨⟨wire, r⟩⟩ | e | _
    · have hr := readVarint_length hv
      refine Accounts.ite (fun _ => Accounts.stop _ _ _) fun _ => Accounts.ite (fun _ => Accounts.stop _ _ _) fun _ => ?_
      rcases findField (S.msg i).fields (wire / 8 % 4294967296) with _ | ⟨j, f⟩
      · -- an unknown record: appended to the unknown fields (twice its length, amortised) unless discarded
        rcases skip rest with n | e | _
        · refine Accounts.ite (fun _ => Accounts.stop _ _ _) fun hn => ?_
          rw [sliceTo_of_le (by omega)]
          have hlen : (rest.take n).length = n := by simp only [List.length_take]; omega
          have hcost : (if o.discard = true then 0 else growFactor * (rest.take n).length) ≤ K * n := by
            rw [hlen]
            split
            · omega
            · simp only [growFactor, K]
              omega
          refine Accounts.ite (fun _ => ⟨rfl, by simp only [K] at hcost ⊢; omega⟩) fun _ => ?_
          refine (ih (if o.discard = true then m else Val.msg m.slots (m.unknown ++ rest.take n))
            (rest.drop n) (a + (if o.discard = true then 0 else growFactor * (rest.take n).length))).mono ?_
          simp only [List.length_drop, K] at hcost ⊢
          omega
        · exact Accounts.stop _ _ _
        · exact Accounts.stop _ _ _
      · -- a known field: the record pays for itself, the tag byte for the `K` it may overdraw
        dsimp only
        obtain ⟨hsnd, hb⟩ := al_knownField hc S (S.msg i).fields j f (wire % 8) m r
        rw [← hsnd]
        generalize implKnownFieldAlloc S (S.msg i).fields cA j f (wire % 8) m r = c at hb ⊢
        obtain ⟨a1, res⟩ := c
        simp only [Paid, K] at hb
        rcases res with ⟨⟨m', r'⟩⟩ | e | _ <;> simp only [Res.remLen] at hb
        · refine Accounts.ite (fun _ => ?_) fun _ => ⟨rfl, by simp only [K]; omega⟩
          obtain ⟨ih1, ih2⟩ := ih m' r' (a + a1)
          simp only [K] at ih2 ⊢
          exact ⟨ih1, by omega⟩
        · exact ⟨rfl, by simp only [K]; omega⟩
        · exact ⟨rfl, by simp only [K]; omega⟩
    · exact Accounts.stop _ _ _
    · exact Accounts.stop _ _ _

end
end

theorem al_closure (S : Schema) (o : UOpts) : ∀ (fuel : Nat) (depth : Int) (i : Nat) (into : Val) (bs : Bytes),
    Accounts (implUnmarshalAlloc S o fuel depth i into bs) (implUnmarshalClosure S o fuel depth i into bs)
      (K * bs.length) := by
  intro fuel
  induction fuel with
  | zero =>
    intro depth i into bs
    exact ⟨rfl, Nat.zero_le _⟩
  | succ fuel ih =>
    intro depth i into bs
    rw [implUnmarshalAlloc, implUnmarshalClosure_succ]
    by_cases h0 : into.isNone = true
    · rw [if_pos h0, if_pos h0]
      exact ⟨rfl, Nat.zero_le _⟩
    rw [if_neg h0, if_neg h0]
    by_cases h1 : depth < 0
    · rw [if_pos h1, if_pos h1]
      exact ⟨rfl, Nat.zero_le _⟩
    rw [if_neg h1, if_neg h1]
    have hchild : (fun i into p => (implUnmarshalAlloc S o fuel (nestedLimit depth) i into p).2) =
        implUnmarshalClosure S o fuel (nestedLimit depth) := by
      funext i into p
      exact (ih _ _ _ _).1
    obtain ⟨hsnd, hb⟩ := al_loop (S := S) (i := i) (o := o) (cA := implUnmarshalAlloc S o fuel (nestedLimit depth))
      (fun i into p => (ih _ i into p).2) bs.length into bs 0
    rw [hchild] at hsnd
    exact ⟨hsnd, by omega⟩

end Pulsar
