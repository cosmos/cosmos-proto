/-
  Pulsar.Proofs.Walk — protobuf-go's `checkInitialized` walk over a generated message cannot panic:
  `Range` on a nil message visits nothing (fix c454db6) and a typed-nil oneof wrapper is skipped (fix 424cbe1).
  The model's `walkPanics` is therefore constantly false, so `proto.Marshal` and `proto.Unmarshal` panic only
  where a generated closure does.
-/
import Pulsar.Entry
namespace Pulsar

theorem walkFields_eq_false {S : Schema} {fuel : Nat} (hw : ∀ i v, walkPanics S fuel i v = false) :
    ∀ (l : List (FieldDesc × Val)), walkFields S fuel l = false := by
  intro l
  induction l with
  | nil => simp [walkFields]
  | cons p tl ih =>
    obtain ⟨f, v⟩ := p
    rw [walkFields.eq_def]
    simp only [ih, Bool.or_false]
    split <;> simp [hw]

theorem walkPanics_eq_false (S : Schema) : ∀ (fuel i : Nat) (v : Val), walkPanics S fuel i v = false := by
  intro fuel
  induction fuel with
  | zero => intro i v; simp [walkPanics]
  | succ fuel ih =>
    intro i v
    rw [walkPanics]
    split
    · rfl
    · exact walkFields_eq_false ih _

theorem implMarshal_eq (S : Schema) (mo : MOpts) (fuel i : Nat) (v : Val) :
    implMarshal S mo fuel i v = implMarshalClosure S mo fuel i v := by
  unfold implMarshal
  cases implMarshalClosure S mo fuel i v <;> simp [walkPanics_eq_false]

theorem implUnmarshal_eq (S : Schema) (o : UOpts) (i : Nat) (m0 : Val) (bs : Bytes) :
    implUnmarshal S o i m0 bs =
      if !o.merge && m0.isNone then .panic
      else implUnmarshalClosure S o (bs.length + 1) 10000 i (if o.merge then m0 else emptyMsg S i) bs := by
  unfold implUnmarshal
  split
  · rfl
  · simp only [walkPanics_eq_false, Bool.and_false, Bool.false_eq_true, if_false]
    cases implUnmarshalClosure S o (bs.length + 1) 10000 i (if o.merge then m0 else emptyMsg S i) bs <;> rfl

theorem implUnmarshal_fresh (S : Schema) (o : UOpts) (i : Nat) (bs : Bytes) :
    implUnmarshal S o i (emptyMsg S i) bs = implUnmarshalClosure S o (bs.length + 1) 10000 i (emptyMsg S i) bs := by
  have hn : (emptyMsg S i).isNone = false := rfl
  rw [implUnmarshal_eq, hn, Bool.and_false, if_neg Bool.false_ne_true, ite_self]

/-! `Val.noNil`: a value without typed-nil oneof wrappers, on which `checkInitialized` is safe even without the
    `o == nil` test that `walkFields` models in its first case. -/

mutual
/-- no `.oneNil` anywhere inside the value -/
def Val.noNil : Val → Bool
  | .oneNil => false
  | .msg s _ => Val.noNilList s
  | .list _ e => Val.noNilList e
  | .map _ e => Val.noNilList e
  | .entry k v => k.noNil && v.noNil
  | .one v => v.noNil
  | .bits _ => true
  | .blob _ _ => true
  | .none => true
def Val.noNilList : List Val → Bool
  | [] => true
  | v :: vs => v.noNil && Val.noNilList vs
end

theorem noNil_msg_unknown {s : List Val} {u u' : Bytes} (h : (Val.msg s u).noNil = true) :
    (Val.msg s u').noNil = true := by
  simpa [Val.noNil] using h

end Pulsar
