/-
  Pulsar.Proofs.GoSrcEncodeVarint — runtime.EncodeVarint as translated from the Go source is the model
  `encodeVarint`.
-/
import Pulsar.Proofs.GoSrcSov
namespace Pulsar
open Pulsar.Timepb

theorem src_byte (v : Nat) : (((v &&& 127) ||| 128) % 256) = v % 128 + 128 := by
  have h := Nat.two_pow_add_eq_or_of_lt (i := 7) (Nat.mod_lt v (by decide)) 1
  rw [Nat.and_two_pow_sub_one_eq_mod v 7, Nat.or_comm, ← h]
  omega

theorem toUInt8_mod (v : Nat) : (v % 256).toUInt8 = v.toUInt8 := UInt8.ofNat_mod_size

theorem src_EncodeVarint_loop : ∀ (fuel : Nat) (d : Bytes) (pos : Int) (v : Nat), v < 128 ^ (fuel + 1) →
    -9223372036854775808 ≤ pos → pos + fuel + 1 ≤ 9223372036854775807 →
    (Xf.runtime_EncodeVarint_loop1 (fuel + 1) d pos v >>= fun (d', off, v') => Go.setAt d' off (v' % 256))
      = encodeVarintLoop d pos v
  | 0, d, pos, v, hv, _, _ => by
    have h : v < 128 := by simpa using hv
    unfold Xf.runtime_EncodeVarint_loop1
    rw [encodeVarintLoop]
    have h' : ¬ v ≥ 128 := by omega
    simp only [h', decide_false, h, dite_true, Res.pure_eq, Res.bind_ok, Go.setAt, toUInt8_mod]
    rfl
  | fuel+1, d, pos, v, hv, h1, h2 => by
    unfold Xf.runtime_EncodeVarint_loop1
    rw [encodeVarintLoop]
    by_cases h : v ≥ 128
    · have h' : ¬ v < 128 := by omega
      simp only [h, decide_true, if_true, h', dite_false]
      rw [Res.bind_assoc, src_byte, wrap64_id (by omega) (by omega)]
      simp only [Go.setAt]
      cases hs : setAt d pos (v % 128 + 128).toUInt8 with
      | ok d' =>
        simp only [Res.bind_ok]
        have hv' : v / 128 < 128 ^ (fuel + 1) := div_128_lt_pow hv
        have := src_EncodeVarint_loop fuel d' (pos + 1) (v / 128) hv' (by omega) (by omega)
        simp only [Go.setAt] at this
        exact this
      | err e => rfl
      | panic => rfl
    · have h' : v < 128 := by omega
      simp only [h, decide_false, h', dite_true, Res.pure_eq, Res.bind_ok, Go.setAt, toUInt8_mod]
      rfl

/-- `ho`: 2^63 rounded down. Any bound ten below 2^63 would do: `offset - Sov(v)` and the cursor of the loop must not
    wrap an `int`. -/
theorem src_EncodeVarint (d : Bytes) (offset v : Nat) (ho : offset < 9223372036854775000)
    (hv : v < 18446744073709551616) :
    Xf.runtime_EncodeVarint d (offset : Int) v = encodeVarint d offset v := by
  unfold Xf.runtime_EncodeVarint encodeVarint
  rw [src_Sov v hv]
  have hs : sov v ≤ 10 := by rw [sov_eq_varint_length]; exact varint_length_le 9 v (by omega)
  simp only [Res.bind_ok, Res.pure_eq]
  rw [wrap64_id (by omega) (by omega)]
  have hv' : v < 128 ^ (9 + 1) := by omega
  have hl := src_EncodeVarint_loop 9 d ((offset : Int) - (sov v : Int)) v hv' (by omega) (by omega)
  rw [show (9 + 1 : Nat) = 10 from rfl] at hl
  rw [← hl]
  generalize Xf.runtime_EncodeVarint_loop1 10 d ((offset : Int) - (sov v : Int)) v = L
  cases L with
  | ok x =>
    obtain ⟨d', off, v'⟩ := x
    simp only [Res.bind_ok]
    cases Go.setAt d' off (v' % 256) <;> rfl
  | err e => rfl
  | panic => rfl

end Pulsar
