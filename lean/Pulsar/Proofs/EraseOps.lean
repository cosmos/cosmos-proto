/-
  Pulsar.Proofs.EraseOps — erasing unknown fields commutes with the value operations the decoder
  performs (reading a slot, the decode target, `FieldDesc.put`, `storeSlot`, the empty message), and
  those keep the shape invariant. No decoder in here: DecodeDiscard builds the simulation on it.
-/
import Pulsar.Proofs.Erase
import Pulsar.Proofs.DecodeStep
import Pulsar.Proofs.Typing
namespace Pulsar

variable (S : Schema)

abbrev eE (e : Elem) (v : Val) : Val := eraseElem (E S) e v
abbrev sE (e : Elem) (v : Val) : Bool := shElem (Sh S) e v

@[simp] theorem eE_scalar (k : Kind) (v : Val) : eE S (.scalar k) v = v := rfl
@[simp] theorem sE_scalar (k : Kind) (v : Val) : sE S (.scalar k) v = true := rfl
theorem eE_message (i : Nat) (v : Val) : eE S (.message i) v = if v.isNone then v else E S i v := rfl
theorem sE_message (i : Nat) (v : Val) : sE S (.message i) v = (v.isNone || Sh S i v) := rfl

theorem Sh_not_none {i : Nat} {v : Val} (h : Sh S i v = true) : v.isNone = false := by
  obtain ⟨s, u, rfl⟩ := Sh_is_msg h; rfl

theorem E_isNone {i : Nat} {v : Val} (h : Sh S i v = true) : (E S i v).isNone = false := by
  obtain ⟨s, u, rfl⟩ := Sh_is_msg h; rw [E_msg]; rfl

theorem eE_of_Sh {i : Nat} {v : Val} (h : Sh S i v = true) : eE S (.message i) v = E S i v := by
  rw [eE_message, Sh_not_none S h]; rfl

theorem sE_of_Sh {i : Nat} {v : Val} (h : Sh S i v = true) : sE S (.message i) v = true := by
  rw [sE_message, h]; simp

@[simp] theorem ES_none (f : FieldDesc) : ES S f .none = .none := by
  unfold ES eraseSlot
  split <;> simp_all [eraseElem]
  split <;> simp [Val.isNone]

theorem eE_zeroVar (e : Elem) : eE S e e.zeroVar = e.zeroVar := by
  cases e <;> simp [Elem.zeroVar, eE_message, Val.isNone]

theorem sE_zeroVar (e : Elem) : sE S e e.zeroVar = true := by
  cases e <;> simp [Elem.zeroVar, sE_message, Val.isNone]

theorem Sh_msg_iff {i : Nat} {slots : List Val} {u : Bytes} :
    Sh S i (Val.msg slots u) = true ↔
      slots.length = (S.msg i).fields.length ∧ ∀ p ∈ (S.msg i).fields.zip slots, ShS S p.1 p.2 = true := by
  rw [Sh_msg]; simp

theorem E_slot {i j : Nat} {f : FieldDesc} (slots : List Val) (u : Bytes) (hf : (S.msg i).fields[j]? = some f) :
    (E S i (Val.msg slots u)).slot j = ES S f ((Val.msg slots u).slot j) := by
  rw [E_msg]
  simp only [Val.slot, Val.slots]
  exact getD_zip_map (ES S) hf (fun _ => ES_none S f)

theorem ShS_slot {i j : Nat} {f : FieldDesc} {slots : List Val} {u : Bytes} (hf : (S.msg i).fields[j]? = some f)
    (h : Sh S i (Val.msg slots u) = true) : ShS S f ((Val.msg slots u).slot j) = true := by
  obtain ⟨hl, hall⟩ := (Sh_msg_iff S).1 h
  simp only [Val.slot, Val.slots]
  exact forall_mem_zip_getD (P := fun f v => ShS S f v = true) _ hf
    (fun h => absurd (hl ▸ lt_of_getElem?_some hf) (Nat.not_lt.2 h)) hall

theorem E_unknown {i : Nat} (slots : List Val) (u u' : Bytes) :
    E S i (Val.msg slots u') = E S i (Val.msg slots u) := by
  rw [E_msg, E_msg]

theorem Sh_unknown {i : Nat} {slots : List Val} {u : Bytes} (u' : Bytes) (h : Sh S i (Val.msg slots u) = true) :
    Sh S i (Val.msg slots u') = true := by
  rw [Sh_msg] at h ⊢; exact h

theorem ShS_none_of_group {f : FieldDesc} {g : Nat} (h : f.group? = some g) : ShS S f .none = true := by
  simp [ShS, shSlot, FieldDesc.group?_eq_some.1 h]

theorem ES_zero (f : FieldDesc) : ES S f f.zero = f.zero := by
  unfold ES eraseSlot FieldDesc.zero
  cases hs : f.shape <;> cases he : f.elem <;> simp [eraseElem, Val.isNone]

theorem ShS_zero (f : FieldDesc) : ShS S f f.zero = true := by
  unfold ShS shSlot FieldDesc.zero
  cases hs : f.shape <;> cases he : f.elem <;> simp [shElem, Val.isNone]

theorem E_emptyMsg (i : Nat) : E S i (emptyMsg S i) = emptyMsg S i := by
  unfold emptyMsg
  rw [E_msg, zip_map_self (fun f v => ES S f v)]
  congr 1
  apply List.map_congr_left
  intro f _
  exact ES_zero S f

theorem Sh_emptyMsg (i : Nat) : Sh S i (emptyMsg S i) = true := by
  unfold emptyMsg
  rw [Sh_msg, zip_all_self _ _ (fun f v => ShS S f v)]
  simp [ShS_zero]

/-- `if x == nil { x = &T{} }` commutes with erasing: the fresh message holds no unknown fields -/
theorem orEmpty_erase (e : Elem) {v : Val} (h : sE S e v = true) :
    e.orEmpty S (eE S e v) = eE S e (e.orEmpty S v) ∧ sE S e (e.orEmpty S v) = true := by
  cases e with
  | scalar k => exact ⟨rfl, rfl⟩
  | message i =>
    rw [sE_message] at h
    simp only [Elem.orEmpty_message, eE_message, sE_message]
    cases hn : v.isNone with
    | true => simp [hn, E_emptyMsg, Sh_emptyMsg]
    | false =>
      simp only [hn, Bool.false_or] at h
      simp [hn, E_isNone S h, h]

section ops
variable {S}

theorem target_erase {f : FieldDesc} {cur : Val} (hsh : ∀ kk, f.shape ≠ .map kk) (hcur : ShS S f cur = true) :
    f.target (ES S f cur) = eE S f.elem (f.target cur) ∧ sE S f.elem (f.target cur) = true := by
  have none : (Val.none : Val) = eE S f.elem .none ∧ sE S f.elem .none = true := by
    cases f.elem <;> exact ⟨rfl, rfl⟩
  unfold ES ShS eraseSlot shSlot FieldDesc.target at *
  cases hs : f.shape with
  | map kk => exact absurd hs (hsh kk)
  | singular => rw [hs] at hcur; exact ⟨rfl, hcur⟩
  | repeated pk => cases cur <;> exact none
  | oneof g =>
    rw [hs] at hcur
    cases cur with
    | one x => exact ⟨rfl, hcur⟩
    | _ => exact none

theorem put_erase {f : FieldDesc} {cur v : Val} (hsh : ∀ kk, f.shape ≠ .map kk) (hcur : ShS S f cur = true)
    (hv : sE S f.elem v = true) :
    f.put (ES S f cur) (eE S f.elem v) = ES S f (f.put cur v) ∧ ShS S f (f.put cur v) = true := by
  unfold ES ShS eraseSlot shSlot FieldDesc.put at *
  cases hs : f.shape with
  | map kk => exact absurd hs (hsh kk)
  | singular => exact ⟨rfl, hv⟩
  | oneof g => exact ⟨rfl, hv⟩
  | repeated pk =>
    rw [hs] at hcur
    cases cur with
    | list nn es => simp only [Val.elems, List.map_append, List.all_append, hcur]; exact ⟨rfl, by simpa using hv⟩
    | _ => cases hcur

theorem storeSlot_erase {i j : Nat} {f : FieldDesc} {slots : List Val} {u : Bytes} {v : Val}
    (hf : (S.msg i).fields[j]? = some f) (hm : Sh S i (Val.msg slots u) = true) (hv : ShS S f v = true) :
    storeSlot (S.msg i).fields f j (E S i (Val.msg slots u)) (ES S f v) =
        E S i (storeSlot (S.msg i).fields f j (Val.msg slots u) v) ∧
      Sh S i (storeSlot (S.msg i).fields f j (Val.msg slots u) v) = true := by
  -- plain `setSlot`, on any well-shaped slot list
  have hset : ∀ ss : List Val, ss.length = (S.msg i).fields.length →
      (∀ p ∈ (S.msg i).fields.zip ss, ShS S p.1 p.2 = true) →
      (E S i (.msg ss u)).setSlot j (ES S f v) = E S i ((Val.msg ss u).setSlot j v) ∧
        Sh S i ((Val.msg ss u).setSlot j v) = true := by
    intro ss hl hall
    simp only [Val.setSlot, E_msg]
    exact ⟨by rw [zip_map_set (ES S) hf],
      (Sh_msg_iff S).2 ⟨by simpa using hl, forall_mem_zip_set (P := fun f v => ShS S f v = true) hf hv hall⟩⟩
  obtain ⟨hl, hall⟩ := (Sh_msg_iff S).1 hm
  unfold storeSlot
  split
  · -- clearing the group commutes with erasing, since `ES` keeps `none`
    rename_i g _
    rw [E_msg]
    simp only [Val.slots, Val.unknown]
    rw [← zip_map_clearGroup _ g (ES S) (fun f _ => ES_none S f), ← E_msg S i _ u]
    exact hset _ (clearGroup_length _ _ _ hl)
      (forall_mem_zip_clearGroup (P := fun f v => ShS S f v = true) _ g (fun f hf => ShS_none_of_group S hf) slots hall)
  · exact hset slots hl hall

end ops

end Pulsar
