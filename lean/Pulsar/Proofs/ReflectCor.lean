/-
  What single steps of the generated reflection compute, with no reference machine in sight: `Range` visits the
  populated fields once each, at most one member of a oneof is set along a history and `WhichOneof` reports it, a
  map write is seen by the map reads (C08's corollaries); leaf reads never panic (C09); an op addressed through a
  path (`Op.under`), and what a read addressed so computes.
-/
import Pulsar.Proofs.Reflect
namespace Pulsar

theorem step_write_field {S : Schema} {i : Nat} {slots : List Val} {u : Bytes} (o : WOp) {j : Nat} {f : FieldDesc}
    (hfld : WOp.field? o = some j) (hf : (S.msg i).fields[j]? = some f) :
    Reflect.step S i (.msg slots u) (.w o)
      = applyFW (S.msg i).fields f j slots u (Reflect.writeF S f (slots.getD j .none) o) := by
  simp only [Reflect.step, Op.isWrite, if_true, Reflect.stepW]
  rw [write_field S i slots u o j hfld, hf]

theorem step_read (S : Schema) (i : Nat) (s : Val) (o : ROp) :
    Reflect.step S i s (.r o) = (s, Reflect.read S i s o) := by
  simp only [Reflect.step, Op.isWrite, Bool.false_eq_true, if_false, Reflect.stepR]

theorem mem_idxFilter (p : FieldDesc → Val → Bool) : ∀ (fs : List FieldDesc) (vs : List Val) (k x : Nat),
    x ∈ idxFilter p k fs vs ↔
      ∃ j f, x = k + j ∧ fs[j]? = some f ∧ j < vs.length ∧ p f (vs.getD j .none) = true
  | [], _, _, _ => by simp [idxFilter]
  | _ :: _, [], _, _ => by simp [idxFilter]
  | f :: fs, v :: vs, k, x => by
    simp only [idxFilter, List.mem_append, mem_idxFilter p fs vs (k+1) x]
    constructor
    · rintro (h | ⟨j, f', hx, hf, hj, hp⟩)
      · split at h
        · simp only [List.mem_singleton] at h
          exact ⟨0, f, by omega, rfl, by simp, by simpa⟩
        · cases h
      · exact ⟨j+1, f', by omega, by simpa using hf, by simpa using hj, by simpa using hp⟩
    · rintro ⟨j, f', hx, hf, hj, hp⟩
      cases j with
      | zero =>
        left
        simp only [List.getElem?_cons_zero, Option.some.injEq] at hf
        subst hf
        simp only [List.getD_cons_zero] at hp
        simp [hp, hx]
      | succ j =>
        right
        exact ⟨j, f', by omega, by simpa using hf, by simpa using hj, by simpa using hp⟩

theorem idxFilter_sorted (p : FieldDesc → Val → Bool) : ∀ (fs : List FieldDesc) (vs : List Val) (k : Nat),
    (idxFilter p k fs vs).Pairwise (· < ·)
  | [], _, _ => by simp [idxFilter]
  | _ :: _, [], _ => by simp [idxFilter]
  | f :: fs, v :: vs, k => by
    simp only [idxFilter]
    split
    · simp only [List.singleton_append, List.pairwise_cons]
      refine ⟨fun x hx => ?_, idxFilter_sorted p fs vs (k+1)⟩
      obtain ⟨j, _, hx, _⟩ := (mem_idxFilter p fs vs (k+1) x).1 hx
      omega
    · simpa using idxFilter_sorted p fs vs (k+1)

theorem run_preserves_wf (S : Schema) (n i : Nat) (ops : List Op) (s : Val) (acc : List Out)
    (hs : msgOK S false n i s = true) (hops : ∀ op ∈ ops, Op.ok S n i op = true) :
    msgOK S false n i
      (ops.foldl (fun a op => let r := Reflect.step S i a.1 op; (r.1, a.2 ++ [r.2])) (s, acc)).1 = true :=
  List.foldlRecOn (motive := fun a : Val × List Out => msgOK S false n i a.1 = true) ops _ hs
    (fun a ha op hop => (step_refines S n i a.1 op ha (hops op hop)).2.2)

theorem whichFrom_eq_some (g : Nat) : ∀ (fs : List FieldDesc) (slots : List Val) (k j : Nat) (f : FieldDesc),
    fs[j]? = some f → f.group? = some g → (slots.getD j .none).isNone = false →
    (∀ j' f', j' < j → fs[j']? = some f' → f'.group? = some g → (slots.getD j' .none).isNone = true) →
    whichFrom g k fs slots = some (k + j)
  | [], _, _, _, _, h, _, _, _ => by simp at h
  | _ :: _, [], _, _, _, _, _, h, _ => by simp [Val.isNone] at h
  | f0 :: fs, v0 :: vs, k, 0, f, hf, hg, hv, _ => by
    simp only [List.getElem?_cons_zero, Option.some.injEq] at hf
    subst hf
    simp only [List.getD_cons_zero] at hv
    simp [whichFrom, hg, hv]
  | f0 :: fs, v0 :: vs, k, j+1, f, hf, hg, hv, hprev => by
    simp only [List.getElem?_cons_succ] at hf
    simp only [List.getD_cons_succ] at hv
    have h0 : (f0.group? == some g && !v0.isNone) = false := by
      cases hg0 : f0.group? == some g
      · rfl
      · have := hprev 0 f0 (Nat.succ_pos j) rfl (by simpa using hg0)
        simp only [List.getD_cons_zero] at this
        simp [this]
    simp only [whichFrom, h0, Bool.false_eq_true, if_false]
    rw [whichFrom_eq_some g fs vs (k+1) j f hf hg hv
      (fun j' f' hj' hf' hg' => by
        have := hprev (j'+1) f' (Nat.succ_lt_succ hj') (by simpa using hf') hg'
        simpa using this)]
    congr 1; omega

theorem findEntry_mapPut (kk : Kind) (es : List Val) (k k' x : Val) (hk : kbeqOf kk k' k = true) :
    findEntry kk (mapPut (kbeqOf kk) es k' x) k = some (.entry k' x) := by
  have hcongr : ∀ en : Val, kbeqOf kk en.key k' = kbeqOf kk en.key k := fun en =>
    kbeqOf_congr_right kk k' k en.key hk
  unfold mapPut findEntry
  split
  · rename_i hany
    induction es with
    | nil => simp at hany
    | cons e es ih =>
      simp only [List.map_cons, List.find?_cons]
      by_cases he : kbeqOf kk e.key k' = true
      · simp only [he, if_true, Val.key_entry, hk]
      · have he' : kbeqOf kk e.key k' = false := by simpa using he
        simp only [he', Bool.false_eq_true, if_false]
        rw [← hcongr e, he']
        simp only [List.any_cons, he', Bool.false_or] at hany
        exact ih hany
  · rename_i hany
    rw [List.find?_append]
    have : es.find? (fun en => kbeqOf kk en.key k) = none := by
      rw [List.find?_eq_none]
      intro e he hek
      apply hany
      exact List.any_eq_true.2 ⟨e, he, by rw [hcongr]; exact hek⟩
    simp [this, hk]

theorem any_mapPut (kk : Kind) (es : List Val) (k k' x : Val) (hk : kbeqOf kk k' k = true) :
    (mapPut (kbeqOf kk) es k' x).any (fun en => kbeqOf kk en.key k) = true := by
  have := findEntry_mapPut kk es k k' x hk
  unfold findEntry at this
  exact List.any_eq_true.2 ⟨_, List.mem_of_find?_eq_some this, by simpa using hk⟩

/-! ### reads that cannot panic (C09) -/

theorem outElem_ne_panic (e : Elem) (v : Val) : outElem e v ≠ .panic ∧ outElem e v ≠ .enc .panic := by
  cases e with
  | scalar k => simp only [outElem]; split <;> exact ⟨nofun, nofun⟩
  | message _ => exact ⟨nofun, nofun⟩

theorem getF_ne_panic (f : FieldDesc) (v : Val) : Reflect.getF f v ≠ .panic ∧ Reflect.getF f v ≠ .enc .panic := by
  unfold Reflect.getF
  cases f.shape with
  | singular => exact outElem_ne_panic _ _
  | oneof g => cases v <;> exact outElem_ne_panic _ _
  | repeated p => cases v.elems.isEmpty <;> exact ⟨nofun, nofun⟩
  | map kk => cases v.elems.isEmpty <;> exact ⟨nofun, nofun⟩

theorem newF_ne_panic (f : FieldDesc) : newF f ≠ .panic ∧ newF f ≠ .enc .panic := by
  unfold newF
  cases f.shape with
  | repeated p => exact ⟨nofun, nofun⟩
  | map kk => exact ⟨nofun, nofun⟩
  | singular => cases f.elem <;> first | exact outElem_ne_panic _ _ | exact ⟨nofun, nofun⟩
  | oneof g => cases f.elem <;> first | exact outElem_ne_panic _ _ | exact ⟨nofun, nofun⟩

theorem getterZero_ne_panic (f : FieldDesc) :
    Reflect.getterZero f ≠ .panic ∧ Reflect.getterZero f ≠ .enc .panic := by
  unfold Reflect.getterZero
  cases f.shape <;> first | exact outElem_ne_panic _ _ | exact ⟨nofun, nofun⟩

/-! ### ops addressed through a path -/

/-- one addressing prefix of the protocol -/
inductive PStep
  | «in» (j : Nat) | «at» (j i : Nat) | mv (j : Nat) (k : Val)

/-- `op` addressed through the prefixes `p` -/
def Op.under : List PStep → Op → Op
  | [], op => op
  | .in j :: p, op => .in j (Op.under p op)
  | .at j n :: p, op => .at j n (Op.under p op)
  | .mv j k :: p, op => .mv j k (Op.under p op)

theorem Op.under_isWrite (p : List PStep) (op : Op) : (Op.under p op).isWrite = op.isWrite := by
  induction p with
  | nil => rfl
  | cons st p ih => cases st <;> simpa [Op.under, Op.isWrite] using ih

theorem stepR_under (S : Schema) : ∀ (p : List PStep) (i : Nat) (s : Val),
    (∃ out, ∀ o : ROp, Reflect.stepR S i s (Op.under p (.r o)) = out) ∨
    (∃ mi c, ∀ o : ROp, Reflect.stepR S i s (Op.under p (.r o)) = Reflect.read S mi c o)
  | [], i, s => .inr ⟨i, s, fun _ => rfl⟩
  | .in j :: p, i, s => by
    simp only [Op.under, Reflect.stepR]
    cases hf : (S.msg i).fields[j]? with
    | none => exact .inl ⟨.panic, fun _ => rfl⟩
    | some f =>
      simp only []
      cases he : f.elem with
      | scalar k => exact .inl ⟨.panic, fun _ => rfl⟩
      | message mi =>
        cases hs : f.shape <;> simp only []
        · exact stepR_under S p mi _
        · exact .inl ⟨.panic, fun _ => rfl⟩
        · split
          · exact stepR_under S p mi _
          · exact stepR_under S p mi _
        · exact .inl ⟨.panic, fun _ => rfl⟩
  | .at j n :: p, i, s => by
    simp only [Op.under, Reflect.stepR]
    cases hf : (S.msg i).fields[j]? with
    | none => exact .inl ⟨.panic, fun _ => rfl⟩
    | some f =>
      simp only []
      cases he : f.elem with
      | scalar k => exact .inl ⟨.panic, fun _ => rfl⟩
      | message mi =>
        cases hs : f.shape <;> simp only []
        · exact .inl ⟨.panic, fun _ => rfl⟩
        · split
          · exact stepR_under S p mi _
          · exact .inl ⟨.panic, fun _ => rfl⟩
        · exact .inl ⟨.panic, fun _ => rfl⟩
        · exact .inl ⟨.panic, fun _ => rfl⟩
  | .mv j k :: p, i, s => by
    simp only [Op.under, Reflect.stepR]
    cases hf : (S.msg i).fields[j]? with
    | none => exact .inl ⟨.panic, fun _ => rfl⟩
    | some f =>
      simp only []
      cases he : f.elem with
      | scalar k => exact .inl ⟨.panic, fun _ => rfl⟩
      | message mi =>
        cases hs : f.shape <;> simp only []
        · exact .inl ⟨.panic, fun _ => rfl⟩
        · exact .inl ⟨.panic, fun _ => rfl⟩
        · exact .inl ⟨.panic, fun _ => rfl⟩
        · split
          · exact stepR_under S p mi _
          · exact .inl ⟨.absent, fun _ => rfl⟩

end Pulsar
