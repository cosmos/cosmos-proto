/-
  Pulsar.Proofs.GoSrcKeySize — generator.KeySize as translated from the Go source is the model `keySize`.
-/
import Pulsar.ExtractedFns
import Pulsar.Proofs.GoSrcBase
import Pulsar.Proofs.EncodeScalar
namespace Pulsar
open Pulsar.Timepb

theorem keySizeLoop_le (k x : Nat) (h : x < 128 ^ (k + 1)) : keySizeLoop x ≤ k + 1 := by
  rw [keySizeLoop_eq_length, keyBytesLoop_eq_varint]
  exact varint_length_le k x h

theorem src_KeySize_loop : ∀ (fuel : Nat) (size : Int) (x : Nat), x < 128 ^ (fuel + 1) →
    -9223372036854775808 ≤ size → size + fuel + 1 ≤ 9223372036854775807 →
    ∃ x', Xf.generator_KeySize_loop1 (fuel + 1) size x = .ok (size + (keySizeLoop x : Int) - 1, x')
  | 0, size, x, hx, _, _ => by
    have h : ¬ x > 127 := by simp at hx; omega
    unfold Xf.generator_KeySize_loop1
    rw [keySizeLoop]
    simp only [h, decide_false, dite_false]
    exact ⟨x, by simp⟩
  | fuel+1, size, x, hx, h1, h2 => by
    unfold Xf.generator_KeySize_loop1
    rw [keySizeLoop]
    by_cases h : x > 127
    · simp only [h, decide_true, if_true, dite_true]
      have hx' : x / 128 < 128 ^ (fuel + 1) := div_128_lt_pow hx
      rw [wrap64_id (by omega) (by omega)]
      obtain ⟨x', hr⟩ := src_KeySize_loop fuel (size + 1) (x / 128) hx' (by omega) (by omega)
      refine ⟨x', ?_⟩
      rw [hr]; congr 2; omega
    · simp only [h, decide_false, dite_false]
      exact ⟨x, by simp⟩

theorem src_KeySize (num wt : Nat) (hn : num < 2147483648) (hw : wt < 128) :
    Xf.generator_KeySize (num : Int) (wt : Int) = .ok (keySize num wt : Int) := by
  unfold Xf.generator_KeySize keySize keyWord
  have e1 : Int.toNat ((num : Int) % 4294967296) = num % 4294967296 := by omega
  have e2 : Int.toNat ((wt : Int) % 4294967296) = wt := by omega
  rw [e1, e2]
  have hlt : (num % 4294967296 * 8 % 4294967296 ||| wt) < 128 ^ (4 + 1) := by
    have : (num % 4294967296 * 8 % 4294967296 ||| wt) < 2 ^ 32 :=
      Nat.or_lt_two_pow (Nat.mod_lt _ (by decide)) (by omega)
    omega
  obtain ⟨x', hr⟩ := src_KeySize_loop 4 0 _ hlt (by omega) (by omega)
  have hk := keySizeLoop_le 4 _ hlt
  simp only [hr, Res.bind_ok]
  rw [wrap64_id (by omega) (by omega)]
  simp only [Res.pure_eq]; congr 1; omega

end Pulsar
