/-
  Pulsar.Proofs.DecodeConcat — what the reference decoder does with more input, more fuel, a laxer mode or a
  nested decoder that accepts more. All of it comes from one fact about a record (`specStep_transfer`): a record the
  step accepts is read the same way when more bytes follow it, when `strict` is dropped and when the nested decoder
  accepts more. So decoding `a ++ b` is decoding `b` into the result of decoding `a`, and acceptance is monotone.
-/
import Pulsar.Proofs.DecodeRefStep
namespace Pulsar

theorem specPayload_transfer {α β : Type} {X Y : Bytes → Res α} {g : α → β} {r r' : Bytes} {b : β}
    (hXY : ∀ p y, p.length < r.length → X p = .ok y → Y p = .ok y) (h : (specPayload X r).mapFst g = .ok (b, r')) :
    ReadsPrefix (fun r => (specPayload Y r).mapFst g) r b r' :=
  .mapFst (fun hp => by
    obtain ⟨q, hq, hx, happ⟩ := specPayload_eq_ok hp
    exact ⟨by omega, fun t => happ _ _ t (hXY _ _ (by omega) hx)⟩) h

theorem specUnknown_append {o : UOpts} {m m' : Val} {bs r r' : Bytes} {num wt : Nat}
    (h : specUnknown o m bs num wt r = .ok (m', r')) :
    r'.length ≤ r.length ∧ ∀ t, specUnknown o m (bs ++ t) num wt (r ++ t) = .ok (m', r' ++ t) := by
  obtain ⟨r2, hv, h⟩ := Res.bind_eq_ok.1 h
  cases h
  refine ⟨consumeValue_length_le hv, fun t => ?_⟩
  unfold specUnknown
  rw [consumeValue_fuel (consumeValue_append t hv), Res.bind_ok]
  simp only [List.length_append, Nat.add_sub_add_right]
  rw [List.take_append_of_le_length (Nat.sub_le _ _)]

section
variable {s1 s2 : Bool} (hs : s2 = true → s1 = true) {c1 c2 : Nat → Val → Bytes → Res Val} {L : Nat}
  (HC : ∀ i into p v, p.length < L → c1 i into p = .ok v → c2 i into p = .ok v)
include hs

theorem specEntrySkip_mono {mism : Bool} {num wt : Nat} {r r' : Bytes}
    (h : specEntrySkip s1 mism num wt r = .ok ((), r')) :
    specEntrySkip s2 mism num wt r = .ok ((), r') ∧ r'.length ≤ r.length := by
  obtain ⟨hm, hv⟩ := specEntrySkip_eq_ok h
  refine ⟨?_, consumeValue_length_le hv⟩
  have hm2 : ¬ (s2 && mism) = true := by
    intro e
    simp only [Bool.and_eq_true] at e
    simp [hs e.1, e.2] at hm
  unfold specEntrySkip
  rw [if_neg hm2, hv]
  rfl

include HC

theorem specEntryStep_mono {kk : Kind} {e : Elem} {kv : Val × Val} {p : Bytes} {x : (Val × Val) × Bytes}
    (hpl : p.length ≤ L) (h : specEntryStep s1 c1 kk e kv p = .ok x) :
    specEntryStep s2 c2 kk e kv p = .ok x ∧ x.2.length < p.length := by
  obtain ⟨⟨num, wt, r⟩, ht, h⟩ := Res.bind_eq_ok.1 h
  have htl := consumeTag_length ht
  unfold specEntryStep
  rw [ht, Res.bind_ok]
  obtain ⟨kv', r'⟩ := x
  have skipped : ∀ {mism : Bool}, (specEntrySkip s1 mism num wt r).mapFst (fun _ => kv) = .ok (kv', r') →
      (specEntrySkip s2 mism num wt r).mapFst (fun _ => kv) = .ok (kv', r') ∧ r'.length < p.length := by
    intro mism h
    obtain ⟨u, hu, hkv⟩ := Res.mapFst_eq_ok.1 h
    obtain ⟨hu', hl⟩ := specEntrySkip_mono hs hu
    exact ⟨Res.mapFst_eq_ok.2 ⟨u, hu', hkv⟩, by omega⟩
  have scalar : ∀ {k : Kind} {g : Val → Val × Val}, (specReadScalar k r).mapFst g = .ok (kv', r') →
      (specReadScalar k r).mapFst g = .ok (kv', r') ∧ r'.length < p.length := by
    intro k g h
    obtain ⟨v, hv, _⟩ := Res.mapFst_eq_ok.1 h
    have := (specReadScalar_prefix hv).1
    exact ⟨h, by omega⟩
  dsimp only at h ⊢
  by_cases hnum : num > 536870911
  · rw [if_pos hnum] at h
    cases h
  rw [if_neg hnum] at h ⊢
  by_cases h1 : num = 1
  · rw [if_pos h1] at h ⊢
    by_cases hw : wt = kk.specWireType
    · rw [if_pos hw] at h ⊢
      exact scalar h
    · rw [if_neg hw] at h ⊢
      exact skipped h
  rw [if_neg h1] at h ⊢
  by_cases h2 : num = 2
  · rw [if_pos h2] at h ⊢
    cases e with
    | scalar vk =>
      dsimp only at h ⊢
      by_cases hw : wt = vk.specWireType
      · rw [if_pos hw] at h ⊢
        exact scalar h
      · rw [if_neg hw] at h ⊢
        exact skipped h
    | message mi =>
      dsimp only at h ⊢
      by_cases hw : wt = 2
      · rw [if_pos hw] at h ⊢
        obtain ⟨hl, happ⟩ := specPayload_transfer (fun q y hq hy => HC _ _ _ _ (by omega) hy) h
        have h2 := happ []
        rw [List.append_nil, List.append_nil] at h2
        exact ⟨h2, by omega⟩
      · rw [if_neg hw] at h ⊢
        exact skipped h
  · rw [if_neg h2] at h ⊢
    exact skipped h

theorem specEntryLoop_mono {kk : Kind} {e : Elem} {fuel : Nat} {p : Bytes} {k v : Val} {res : Val × Val}
    (hpl : p.length ≤ L) (h : specEntryLoop s1 c1 kk e fuel p k v = .ok res) :
    specEntryLoop s2 c2 kk e fuel p k v = .ok res := by
  induction fuel generalizing p k v with
  | zero => exact h
  | succ fuel ih =>
    rw [specEntryLoop_succ] at h ⊢
    by_cases hb : p = []
    · rw [if_pos hb] at h ⊢
      exact h
    · rw [if_neg hb] at h ⊢
      obtain ⟨⟨⟨k', v'⟩, r'⟩, hx, h⟩ := Res.bind_eq_ok.1 h
      obtain ⟨hx', hl⟩ := specEntryStep_mono hs HC hpl hx
      rw [hx']
      exact ih (p := r') (by dsimp only at hl; omega) h

theorem specSlotStep_transfer {S : Schema} {f : FieldDesc} {wt : Nat} {cur v : Val} {r r' : Bytes} (hrl : r.length ≤ L)
    (h : specSlotStep s1 S c1 f wt cur r = .ok (v, r')) : ReadsPrefix (specSlotStep s2 S c2 f wt cur) r v r' := by
  -- only the nested decoder (or the map entry loop) of a length-delimited payload changes
  unfold specSlotStep at h ⊢
  split at h
  · exact specPayload_transfer (fun p y hp hy => specEntryLoop_mono hs HC (by omega) hy) h
  · by_cases hw : wt = f.elem.wireType
    · simp only [if_pos hw] at h ⊢
      unfold specReadElem at h ⊢
      split at h
      · exact ReadsPrefix.mapFst specReadScalar_prefix h
      · exact specPayload_transfer (fun p y hp hy => HC _ _ _ _ (by omega) hy) h
    · simp only [if_neg hw] at h ⊢
      split at h
      · exact specPayload_transfer (fun _ _ _ hy => hy) h
      · cases h

theorem specStep_transfer {S : Schema} {i : Nat} {o : UOpts} {m m' : Val} {bs r' : Bytes} (hbl : bs.length ≤ L)
    (h : specStep s1 S i o c1 m bs = .ok (m', r')) : ReadsPrefix (specStep s2 S i o c2 m) bs m' r' := by
  obtain ⟨⟨num, wt, r⟩, ht, h⟩ := Res.bind_eq_ok.1 h
  have htl := consumeTag_length ht
  dsimp only at h
  -- whatever follows the tag: progress over `r` is progress over `bs`, and the tag is read the same way
  suffices hr : r'.length ≤ r.length ∧ ∀ t,
      (if num > 536870911 then Res.err Err.illegalTag else
        match findField (S.msg i).fields num with
        | none => specUnknown o m (bs ++ t) num wt (r ++ t)
        | some jf =>
          if jf.2.accepts wt then
            (specSlotStep s2 S c2 jf.2 wt (m.slot jf.1) (r ++ t)).mapFst (storeSlot (S.msg i).fields jf.2 jf.1 m)
          else if s2 then .err .wrongWireType else specUnknown o m (bs ++ t) num wt (r ++ t)) = .ok (m', r' ++ t) by
    refine ⟨by omega, fun t => ?_⟩
    unfold specStep
    rw [consumeTag_append t ht, Res.bind_ok]
    exact hr.2 t
  by_cases hnum : num > 536870911
  · rw [if_pos hnum] at h
    cases h
  rw [if_neg hnum] at h
  simp only [if_neg hnum]
  cases hf : findField (S.msg i).fields num with
  | none =>
    rw [hf] at h
    exact specUnknown_append h
  | some jf =>
    rw [hf] at h
    dsimp only at h ⊢
    by_cases hacc : jf.2.accepts wt = true
    · rw [if_pos hacc] at h
      simp only [if_pos hacc]
      obtain ⟨v, hv, rfl⟩ := Res.mapFst_eq_ok.1 h
      obtain ⟨hl, happ⟩ := specSlotStep_transfer hs HC (by omega) hv
      exact ⟨Nat.le_of_lt hl, fun t => Res.mapFst_eq_ok.2 ⟨v, happ t, rfl⟩⟩
    · rw [if_neg hacc] at h
      simp only [if_neg hacc]
      by_cases hst : s1 = true
      · rw [if_pos hst] at h
        cases h
      · rw [if_neg hst] at h
        simp only [if_neg fun e => hst (hs e)]
        exact specUnknown_append h

end

section
variable {strict : Bool} {S : Schema} {i : Nat} {o : UOpts}

theorem specDecodeLoop_fuel {c : Nat → Val → Bytes → Res Val} {f1 f2 : Nat} {m : Val} {bs : Bytes}
    (h1 : bs.length ≤ f1) (h2 : bs.length ≤ f2) :
    specDecodeLoop strict S i o c f1 m bs = specDecodeLoop strict S i o c f2 m bs := by
  induction f1 generalizing f2 m bs with
  | zero =>
    have : bs = [] := List.length_eq_zero_iff.mp (by omega)
    subst this
    rw [specDecodeLoop_nil, specDecodeLoop_nil]
  | succ f1 ih =>
    cases f2 with
    | zero =>
      have : bs = [] := List.length_eq_zero_iff.mp (by omega)
      subst this
      rw [specDecodeLoop_nil, specDecodeLoop_nil]
    | succ f2 =>
      rw [specDecodeLoop_succ, specDecodeLoop_succ]
      split
      · rfl
      · cases hx : specStep strict S i o c m bs with
        | ok x =>
          have := (specStep_transfer id (fun _ _ _ _ _ hc => hc) (Nat.le_refl _) hx).1
          exact ih (by omega) (by omega)
        | err e => rfl
        | panic => rfl

/-- with `t = []` and `f2 = 0` this is monotonicity of the loop -/
theorem specDecodeLoop_transfer {s1 s2 : Bool} (hs : s2 = true → s1 = true) {c1 c2 : Nat → Val → Bytes → Res Val} {L : Nat}
    (HC : ∀ i into p v, p.length < L → c1 i into p = .ok v → c2 i into p = .ok v)
    {fuel : Nat} {m : Val} {a : Bytes} {v : Val} (hl : a.length ≤ fuel) (hL : a.length ≤ L)
    (h : specDecodeLoop s1 S i o c1 fuel m a = .ok v) (t : Bytes) {f2 : Nat} (ht : t.length ≤ f2) :
    specDecodeLoop s2 S i o c2 (fuel + f2) m (a ++ t) = specDecodeLoop s2 S i o c2 f2 v t := by
  induction fuel generalizing m a with
  | zero =>
    have : a = [] := List.length_eq_zero_iff.mp (by omega)
    subst this
    rw [specDecodeLoop_nil] at h
    cases h
    simp
  | succ fuel ih =>
    rw [specDecodeLoop_succ] at h
    by_cases hb : a = []
    · subst hb
      cases h
      exact specDecodeLoop_fuel (by simpa using by omega) ht
    · rw [if_neg hb] at h
      obtain ⟨⟨m', r'⟩, hx, h⟩ := Res.bind_eq_ok.1 h
      obtain ⟨hlt, hx'⟩ := specStep_transfer hs HC hL hx
      rw [Nat.add_right_comm, specDecodeLoop_succ, if_neg (by simp [hb]), hx' t]
      exact ih (by omega) (by omega) h

end

section
variable {strict : Bool} {S : Schema} {o : UOpts}

theorem specDecodeInto_mono {s1 s2 : Bool} (hs : s2 = true → s1 = true) {f1 f2 depth i : Nat} {into : Val} {bs : Bytes}
    {v : Val} (hf : f1 ≤ f2) (hl : bs.length < f1) (h : specDecodeInto s1 S o f1 depth i into bs = .ok v) :
    specDecodeInto s2 S o f2 depth i into bs = .ok v := by
  induction f1 generalizing f2 depth i into bs v with
  | zero => omega
  | succ f1 ih =>
    cases f2 with
    | zero => omega
    | succ f2 =>
      rw [specDecodeInto] at h ⊢
      split at h
      · cases h
      · rename_i hd
        rw [if_neg hd]
        have h2 := specDecodeLoop_transfer hs (L := bs.length) (c2 := specDecodeInto s2 S o f2 (depth - 1))
          (fun i' into' p v' hp hc => ih (by omega) (by omega) hc) (Nat.le_refl _) (Nat.le_refl _) h [] (Nat.le_refl 0)
        rwa [List.append_nil] at h2

theorem specDecodeInto_append {F depth i : Nat} {m v1 : Val} {a : Bytes} (b : Bytes)
    (h : specDecodeInto strict S o (F + 1) depth i m a = .ok v1) :
    specDecodeInto strict S o (F + 1) depth i m (a ++ b) = specDecodeInto strict S o (F + 1) depth i v1 b := by
  rw [specDecodeInto] at h ⊢
  rw [specDecodeInto]
  split at h
  · cases h
  · rename_i hd
    rw [if_neg hd, if_neg hd, List.length_append]
    exact specDecodeLoop_transfer id (fun _ _ _ _ _ hc => hc) (Nat.le_refl _) (Nat.le_refl _) h b (Nat.le_refl _)

theorem specDecodeInto_opts (strict : Bool) (S : Schema) (o o' : UOpts) (hd : o.discard = o'.discard) :
    specDecodeInto strict S o = specDecodeInto strict S o' := by
  obtain ⟨mg, d⟩ := o
  obtain ⟨mg', d'⟩ := o'
  cases hd
  -- `specStep` reads nothing of the options but `discard`
  suffices h : ∀ (c : Nat → Val → Bytes → Res Val) i fuel m bs,
      specDecodeLoop strict S i ⟨mg, d⟩ c fuel m bs = specDecodeLoop strict S i ⟨mg', d⟩ c fuel m bs by
    funext fuel
    induction fuel with
    | zero => rfl
    | succ fuel ih =>
      funext depth i into bs
      rw [specDecodeInto, specDecodeInto, ih, h]
  intro c i fuel
  induction fuel with
  | zero =>
    intro m bs
    rfl
  | succ fuel ih =>
    intro m bs
    rw [specDecodeLoop_succ, specDecodeLoop_succ]
    simp only [ih]
    rfl

/-- the fuels are those `specUnmarshal` uses -/
theorem specDecodeInto_concat {o' : UOpts} (hd : o'.discard = o.discard) {depth i : Nat} {start v1 v2 : Val} {a b : Bytes}
    (ha : specDecodeInto strict S o (a.length + 1) depth i start a = .ok v1)
    (hb : specDecodeInto strict S o' (b.length + 1) depth i v1 b = .ok v2) :
    specDecodeInto strict S o ((a ++ b).length + 1) depth i start (a ++ b) = .ok v2 := by
  have hla : a.length ≤ (a ++ b).length := by simp
  have hlb : b.length ≤ (a ++ b).length := by simp
  have ha' := specDecodeInto_mono id (f2 := (a ++ b).length + 1) (by omega) (by omega) ha
  rw [specDecodeInto_opts strict S o' o hd] at hb
  have hb' := specDecodeInto_mono id (f2 := (a ++ b).length + 1) (by omega) (by omega) hb
  rw [specDecodeInto_append b ha', hb']

end

end Pulsar
