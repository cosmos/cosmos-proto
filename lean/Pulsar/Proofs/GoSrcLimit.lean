/-
  Pulsar.Proofs.GoSrcLimit — runtime.nestedRecursionLimit as translated from the Go source is the model
  `nestedLimit` (see Pulsar/Proofs/GoSrcBase.lean).
-/
import Pulsar.ExtractedFns
import Pulsar.Proofs.GoSrcBase
import Pulsar.Decode
namespace Pulsar
open Pulsar.Timepb

/-- the budget handed down is smaller, and never the 0 that `proto.UnmarshalOptions` reads as "unset" -/
theorem nestedLimit_lt {d : Int} (h : 0 < d) : nestedLimit d < d ∧ nestedLimit d ≠ 0 := by
  unfold nestedLimit; simp only []; split <;> split <;> omega

theorem src_nestedRecursionLimit (d : Int) (hd : -9223372036854775808 ≤ d ∧ d ≤ 9223372036854775807) :
    Xf.runtime_nestedRecursionLimit d = .ok (nestedLimit d) := by
  simp [Xf.runtime_nestedRecursionLimit, nestedLimit, wrap64_eq]
  go_cases

end Pulsar
