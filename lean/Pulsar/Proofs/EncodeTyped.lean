/-
  Pulsar.Proofs.EncodeTyped — on a well-typed value of a well-formed schema the generated marshal code writes
  the reference encoding, with the map entries in the order in force (`gEncode (ordOf o)`; `specEncode` is
  `gEncode sortEntries`): one field, one level, the tree, the entry point. That nothing panics and that sizes are
  lengths comes from MarshalTotal: each lemma here says what the bytes are and that the value lies in
  MarshalTotal's domain.
-/
import Pulsar.Proofs.MarshalTotal
import Pulsar.Proofs.Walk
namespace Pulsar

/-- `specField` with the map-entry order as a parameter (`specField = gField sortEntries`). -/
def gField (ord : Kind → List Val → List Val) (child : Nat → Val → Bytes) (f : FieldDesc) (v : Val) : Bytes :=
  match f.shape with
  | .singular =>
    (match f.elem with
     | .scalar k => if specPresent k v then specTag f ++ specScalar k v else []
     | .message _ => if v.isNone then [] else specTag f ++ specElem child f.elem v)
  | .oneof _ =>
    (match v with
     | .one x => specTag f ++ specElem child f.elem x
     | _ => [])
  | .repeated packed =>
    if v.elems.isEmpty then []
    else if packed then
      let body := (v.elems.map (specElem child f.elem)).flatten
      tag f.num 2 ++ varint body.length ++ body
    else (v.elems.map (fun x => specTag f ++ specElem child f.elem x)).flatten
  | .map kk =>
    ((ord kk v.elems).map (fun en =>
      let body := specEntry child kk f.elem en
      tag f.num 2 ++ varint body.length ++ body)).flatten

def gEncodeLvl (S : Schema) (ord : Kind → List Val → List Val) (i : Nat) (child : Nat → Val → Bytes) (v : Val) : Bytes :=
  ((sortFV ((S.msg i).fields.zip v.slots)).map (fun p => gField ord child p.1 p.2)).flatten ++ v.unknown

def gEncode (S : Schema) (ord : Kind → List Val → List Val) : Nat → Nat → Val → Bytes
  | 0, _, _ => []
  | fuel+1, i, v => if v.isNone then [] else gEncodeLvl S ord i (gEncode S ord fuel) v

theorem specField_eq_gField (child : Nat → Val → Bytes) (f : FieldDesc) (v : Val) :
    specField child f v = gField sortEntries child f v := rfl

theorem specEncodeLvl_eq_g (S : Schema) (i : Nat) (child : Nat → Val → Bytes) (v : Val) :
    specEncodeLvl S i child v = gEncodeLvl S sortEntries i child v := rfl

theorem specEncode_eq_g (S : Schema) : ∀ fuel, specEncode S fuel = gEncode S sortEntries fuel
  | 0 => rfl
  | fuel+1 => by
    funext i v
    simp only [specEncode, gEncode, specEncode_eq_g S fuel, specEncodeLvl_eq_g]

/-- What the level lemmas assume about the next nesting level. -/
def ChildBytes (childOK : Nat → Val → Bool) (child : Nat → Val → Bytes)
    (childEnc : Nat → Val → Res Bytes) (childSize : Nat → Val → Nat) : Prop :=
  ∀ j x, childOK j x = true → childEnc j x = .ok (child j x) ∧ childSize j x = (child j x).length

section field
variable {n : Nat} {childOK : Nat → Val → Bool} {child : Nat → Val → Bytes}
  {childEnc : Nat → Val → Res Bytes} {childSize : Nat → Val → Nat}

theorem rangeOK_of_scalarOK {k : Kind} {v : Val} (h : scalarOK k v = true) : PU.rangeOK k v = true := by
  by_cases hb : k.isBlob = true
  · cases k <;> first | rfl | cases hb
  · obtain ⟨m, rfl, hm⟩ := scalarOK_bits h (by simpa using hb)
    cases k <;> first | rfl | (simp [Kind.width] at hm; simp [PU.rangeOK, Val.getBits, hm])

theorem elem_bytes (H : ChildBytes childOK child childEnc childSize) {e : Elem} {v : Val}
    (hv : elemOK childOK e false v = true) :
    implElemBytes childEnc e v = .ok (specElem child e v) ∧ PU.GElem (PU.ChildOK childEnc childSize) e v := by
  cases e with
  | scalar k =>
    rw [elemOK_scalar] at hv
    exact ⟨by simp [implElemBytes, specElem, implScalarBytes_eq_spec hv], rangeOK_of_scalarOK hv⟩
  | message i =>
    rw [elemOK_message] at hv
    obtain ⟨h1, h2⟩ := H i v hv
    exact ⟨by simp [implElemBytes, specElem, h1], _, h1, h2.symm⟩

theorem entry_bytes (H : ChildBytes childOK child childEnc childSize) {num : Nat} {kk : Kind} {e : Elem} {en : Val}
    (hn : num < 536870912) (hv : entryOK childOK false kk e en = true) :
    implEntryBytes childEnc num kk e en =
      .ok (tag num 2 ++ varint (specEntry child kk e en).length ++ specEntry child kk e en) ∧
    PU.rangeOK kk en.key = true ∧ PU.GElem (PU.ChildOK childEnc childSize) e en.value := by
  obtain ⟨k, v, rfl, hk, hv⟩ := entryOK_iff.1 hv
  obtain ⟨h1, h2⟩ := elem_bytes H hv
  refine ⟨?_, rangeOK_of_scalarOK hk, h2⟩
  simp only [implEntryBytes, Val.value, h1, Val.key, specEntry]
  rw [keyBytes_eq_tag 1 _ (by omega) (wireType_lt_8 _), wireType_eq_spec,
    keyBytes_eq_tag 2 _ (by omega) (elem_wireType_lt_8 _), elem_wireType_eq,
    implScalarBytes_eq_spec hk, keyBytes_eq_tag num _ hn (by decide)]
  rfl

theorem field_bytes (H : ChildBytes childOK child childEnc childSize) (o : MOpts)
    (hmem : ∀ kk es x, x ∈ ordOf o kk es → x ∈ es)
    {f : FieldDesc} {v : Val} (hwf : f.wf n = true) (hv : slotOK childOK false f v = true) :
    implFieldBytes o childEnc f v = .ok (gField (ordOf o) child f v) ∧ PU.GSlot (PU.ChildOK childEnc childSize) f v := by
  have hnum := FieldDesc.wf_num hwf
  have hkey : keyBytes f.num f.elem.wireType = specTag f := by
    rw [keyBytes_eq_tag _ _ hnum (elem_wireType_lt_8 _), specTag_eq]
  unfold PU.GSlot
  cases hs : f.shape with
  | singular =>
    rw [slotOK_singular_iff hs] at hv
    cases hel : f.elem with
    | scalar k =>
      rw [hel, elemOK_scalar] at hv
      refine ⟨?_, Or.inr (rangeOK_of_scalarOK hv)⟩
      simp only [implFieldBytes, gField, hs, hel, implPresent_eq_spec]
      rw [hel] at hkey
      split
      · rw [hkey, implScalarBytes_eq_spec hv]
      · rfl
    | message i =>
      simp only [implFieldBytes, gField, hs, hel]
      by_cases hnone : v.isNone = true
      · exact ⟨by simp [hnone], Or.inl hnone⟩
      · obtain ⟨h1, h2⟩ := elem_bytes H (elemOK_of_not_none (hel ▸ hv) (by simpa using hnone))
        rw [hel] at hkey
        exact ⟨by simp only [hnone, h1, hkey]; simp, Or.inr h2⟩
  | oneof g =>
    rcases (slotOK_oneof_iff hs).1 hv with rfl | ⟨x, rfl, hx⟩ | ⟨-, hj⟩
    · exact ⟨by simp [implFieldBytes, gField, hs], by simp⟩
    · obtain ⟨h1, h2⟩ := elem_bytes H hx
      exact ⟨by simp only [implFieldBytes, gField, hs, h1, hkey], by simp, by rintro _ ⟨rfl⟩; exact h2⟩
    · cases hj
  | repeated packed =>
    obtain ⟨nn, es, rfl, hes⟩ := (slotOK_repeated_iff hs).1 hv
    have hall : ∀ x ∈ es, implElemBytes childEnc f.elem x = .ok (specElem child f.elem x) ∧
        PU.GElem (PU.ChildOK childEnc childSize) f.elem x := fun x hx => elem_bytes H (hes x hx)
    refine ⟨?_, fun hp => let ⟨k, hk, _⟩ := FieldDesc.wf_packed hwf (hp ▸ hs); ⟨k, hk⟩, fun x hx => (hall x hx).2⟩
    simp only [gField, hs, Val.elems]
    by_cases hemp : es.isEmpty = true
    · simp [implFieldBytes, hs, hemp, Val.elems]
    · simp only [hemp, if_false, Bool.false_eq_true]
      cases packed with
      | true =>
        obtain ⟨k, hel, -⟩ := FieldDesc.wf_packed hwf hs
        rw [hel] at hall
        rw [PU.implFieldBytes_packed o childEnc hs hel (v := .list nn es) (by simpa [Val.elems] using hemp)
            (fun x hx => (hall x hx).2),
          keyBytes_eq_tag _ _ hnum (by decide)]
        have hb : es.map (implScalarBytes k) = es.map (specElem child f.elem) := by
          rw [hel]
          exact List.map_congr_left (fun x hx => by simpa [implElemBytes] using (hall x hx).1)
        simp only [Val.elems, hb, if_true]
      | false =>
        simp only [implFieldBytes, hs, Val.elems, hemp, Bool.false_eq_true, if_false]
        exact concatRes_map_ok _ _ _ (fun x hx => by simp only [(hall x hx).1, hkey])
  | map kk =>
    obtain ⟨nn, es, rfl, hes, -⟩ := (slotOK_map_iff hs).1 hv
    refine ⟨?_, fun en hen => (entry_bytes H hnum (hes en hen)).2⟩
    simp only [implFieldBytes, gField, hs, Val.elems]
    exact concatRes_map_ok _ _ _ (fun en hen => (entry_bytes H hnum (hes en (hmem kk es en hen))).1)

end field

theorem gField_not_live (ord : Kind → List Val → List Val) (child : Nat → Val → Bytes)
    (p : FieldDesc × Val) (h : live p = false) : gField ord child p.1 p.2 = [] := by
  simp only [live, Bool.not_eq_false', Bool.and_eq_true] at h
  obtain ⟨g, hs⟩ := FieldDesc.isOneof_iff.1 h.1
  simp [gField, hs, isNone_eq_true h.2]

section level
variable {S : Schema} {childOK : Nat → Val → Bool} {child : Nat → Val → Bytes}
  {childEnc : Nat → Val → Res Bytes} {childSize : Nat → Val → Nat}

theorem level_bytes (hS : S.WF = true) {i : Nat} (o : MOpts) (hord : ∀ kk es, (ordOf o kk es).Perm es)
    (H : ChildBytes childOK child childEnc childSize)
    (hsz0 : ∀ i v, v.isNone = true → childSize i v = 0) {v : Val}
    (hv : msgOKLvl S false childOK i v = true) :
    implSizeLvl S i o childSize v = (gEncodeLvl S (ordOf o) i child v).length ∧
    (BackBuf.mk (implSizeLvl S i o childSize v) []).writeAll
        (implWriteSeq o childEnc ((S.msg i).fields.zip v.slots) v.unknown) =
      .ok ⟨0, gEncodeLvl S (ordOf o) i child v⟩ := by
  obtain ⟨slots, u, rfl, -, hslots, hone⟩ := msgOKLvl_iff.1 hv
  have hmwf := Schema.msg_wf hS i
  have hmem : ∀ kk es x, x ∈ ordOf o kk es → x ∈ es :=
    fun kk es x hx => (hord kk es).mem_iff.1 hx
  have hF : ∀ p ∈ (S.msg i).fields.zip slots,
      implFieldBytes o childEnc p.1 p.2 = .ok (gField (ordOf o) child p.1 p.2) ∧
      PU.GSlot (PU.ChildOK childEnc childSize) p.1 p.2 := fun p hp =>
    field_bytes H o hmem (MsgDesc.wf_field hmwf (List.of_mem_zip hp).1) (hslots p hp)
  -- the buffer is filled exactly (MarshalTotal); the chunks are the reference bytes of the fields
  obtain ⟨cs, hcs, hw, hl⟩ := PU.lvl_ok S i o childEnc childSize (fun _ _ h => h) hsz0 hmem (.msg slots u)
    (fun p hp => (hF p hp).2)
  simp only [Val.slots, Val.unknown] at hcs hw hl ⊢
  have hchunks : cs = (writeOrder ((S.msg i).fields.zip slots)).map (fun p => gField (ordOf o) child p.1 p.2) := by
    refine (List.map_inj_right (f := Res.ok) (fun a b h => Res.ok.inj h)).1 ?_
    rw [← hcs, List.map_map]
    exact List.map_congr_left (fun p hp => (hF p ((writeOrder_perm _).mem_iff.1 hp)).1)
  -- `rw`, not `subst`: `subst` tries to unfold the right-hand side, which is slow
  rw [hchunks, ← List.map_reverse,
    ← flatten_legacy_eq_writeOrder (fun p => gField (ordOf o) child p.1 p.2) (gField_not_live _ _) _
      (zip_distinct (num := FieldDesc.num) (MsgDesc.wf_distinct hmwf) slots) (oneofOK_le_one hone)] at hw hl
  exact ⟨hl.symm, hw⟩

end level

theorem closure_bytes {S : Schema} (hS : S.WF = true) (o : MOpts) (hord : ∀ kk es, (ordOf o kk es).Perm es) :
    ∀ fuel, ChildBytes (msgOK S false fuel) (gEncode S (ordOf o) fuel) (implMarshalClosure S o fuel) (implSize S o fuel)
  | 0 => fun j x h => by simp [msgOK] at h
  | fuel+1 => fun i v hv => by
    obtain ⟨slots, u, rfl⟩ := msgOK_isMsg hv
    obtain ⟨h1, h2⟩ := level_bytes hS o hord (closure_bytes hS o hord fuel) (PU.implSize_none S o fuel)
      (v := .msg slots u) hv
    refine ⟨?_, h1⟩
    -- a `.msg` is not nil: the closure is its level function on a buffer of `implSizeLvl` bytes
    show implMarshalLvl S i o (implSizeLvl S i o (implSize S o fuel) (.msg slots u)) (implMarshalClosure S o fuel)
      (.msg slots u) = _
    rw [implMarshalLvl, h2]
    rfl

/-- the form `C04_index_reaches_zero` is stated in -/
theorem writeSeq_ok {S : Schema} (hS : S.WF = true) (o : MOpts) (hord : ∀ kk es, (ordOf o kk es).Perm es)
    {fuel i : Nat} {v : Val} (hv : msgOK S false (fuel + 1) i v = true) :
    (BackBuf.mk (implSize S o (fuel + 1) i v) []).writeAll
        (implWriteSeq o (implMarshalClosure S o fuel) ((S.msg i).fields.zip v.slots) v.unknown) =
      .ok ⟨0, gEncode S (ordOf o) (fuel + 1) i v⟩ := by
  obtain ⟨slots, u, rfl⟩ := msgOK_isMsg hv
  exact (level_bytes hS o hord (closure_bytes hS o hord fuel) (PU.implSize_none S o fuel)
    (v := .msg slots u) hv).2

theorem marshal_ok {S : Schema} (hS : S.WF = true) (o : MOpts) (hord : ∀ kk es, (ordOf o kk es).Perm es)
    {fuel i : Nat} {v : Val} (hv : msgOK S false fuel i v = true) :
    implMarshal S o fuel i v = .ok (gEncode S (ordOf o) fuel i v) ∧
    implSize S o fuel i v = (gEncode S (ordOf o) fuel i v).length ∧
    (gEncode S (ordOf o) fuel i v).length = (specEncode S fuel i v).length ∧
    (o.det = true → gEncode S (ordOf o) fuel i v = specEncode S fuel i v) := by
  obtain ⟨h1, h2⟩ := closure_bytes hS o hord fuel i v hv
  have hdet : ∀ π, ordOf ⟨true, π⟩ = sortEntries := fun π => rfl
  refine ⟨?_, h2, ?_, ?_⟩
  · rw [implMarshal_eq, h1]
  · -- the size is that of the deterministic encoding, which is the reference encoding
    have h := (closure_bytes hS ⟨true, o.perm⟩ (fun kk es => sortEntries_perm kk es) fuel i v hv).2
    rw [hdet, ← specEncode_eq_g,
      ← implSize_ord S (o := o) (o' := ⟨true, o.perm⟩) (fun kk es => (hord kk es).trans (sortEntries_perm kk es).symm),
      h2] at h
    exact h
  · intro hd
    cases o
    cases hd
    rw [hdet, specEncode_eq_g]

end Pulsar
