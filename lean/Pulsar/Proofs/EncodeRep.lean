/-
  Pulsar.Proofs.EncodeRep — option/representation independence (C05):
  * with Deterministic set, the map-iteration order `perm` is never consulted;
  * `repNorm` preserves well-typedness and the reference encoding.
-/
import Pulsar.Proofs.EncodeKeyOrder
namespace Pulsar

theorem implFieldSize_det (π π' : List Val → List Val) (cs : Nat → Val → Nat) (f : FieldDesc) (v : Val) :
    implFieldSize ⟨true, π⟩ cs f v = implFieldSize ⟨true, π'⟩ cs f v := by
  unfold implFieldSize; rfl

theorem implFieldBytes_det (π π' : List Val → List Val) (ce : Nat → Val → Res Bytes) (f : FieldDesc) (v : Val) :
    implFieldBytes ⟨true, π⟩ ce f v = implFieldBytes ⟨true, π'⟩ ce f v := by
  unfold implFieldBytes; rfl

theorem implSize_det (S : Schema) (π π' : List Val → List Val) :
    ∀ fuel, implSize S ⟨true, π⟩ fuel = implSize S ⟨true, π'⟩ fuel :=
  implSize_ord S fun _ _ => .refl _

theorem implMarshalClosure_det (S : Schema) (π π' : List Val → List Val) :
    ∀ fuel, implMarshalClosure S ⟨true, π⟩ fuel = implMarshalClosure S ⟨true, π'⟩ fuel := by
  intro fuel
  induction fuel with
  | zero => rfl
  | succ fuel ih =>
    funext i v
    have hw : ∀ ce fvs u, implWriteSeq ⟨true, π⟩ ce fvs u = implWriteSeq ⟨true, π'⟩ ce fvs u := by
      intro ce fvs u
      have : (fun p : FieldDesc × Val => implFieldBytes ⟨true, π⟩ ce p.1 p.2) =
          (fun p => implFieldBytes ⟨true, π'⟩ ce p.1 p.2) := by
        funext p; exact implFieldBytes_det π π' _ _ _
      simp only [implWriteSeq, this]
    simp only [implMarshalClosure, implMarshalLvl, ih, implSize_det S π π' (fuel + 1), hw]

theorem specScalar_congr (k : Kind) {v w : Val} (hb : w.getBits = v.getBits) (hl : w.getBlob = v.getBlob) :
    specScalar k w = specScalar k v := by
  cases k <;> simp [specScalar, hb, hl]

theorem specPresent_congr (k : Kind) {v w : Val} (hb : w.getBits = v.getBits) (hl : w.getBlob = v.getBlob) :
    specPresent k w = specPresent k v := by
  simp [specPresent, hb, hl]

/-- What the level lemmas assume about the next nesting level. -/
structure RepChild (childOK : Nat → Val → Bool) (child : Nat → Val → Bytes) (rn : Nat → Val → Val) : Prop where
  ok : ∀ j x, childOK j x = true → childOK j (rn j x) = true
  enc : ∀ j x, childOK j x = true → child j (rn j x) = child j x
  nn : ∀ j x, childOK j x = true → x.isNone = false
  rnn : ∀ j x, x.isNone = false → (rn j x).isNone = false

section level
variable {childOK : Nat → Val → Bool} {child : Nat → Val → Bytes} {rn : Nat → Val → Val}

theorem specElem_rep (H : RepChild childOK child rn) {e : Elem} {v : Val}
    (hv : elemOK childOK e false v = true) :
    specElem child e (repElem rn e v) = specElem child e v ∧
    elemOK childOK e false (repElem rn e v) = true := by
  cases e with
  | scalar k =>
    refine ⟨?_, ?_⟩
    · simp only [specElem]
      exact specScalar_congr k (repScalar_getBits rn k v) (repScalar_getBlob rn k v)
    · simp only [elemOK] at hv ⊢
      rw [scalarOK_rep]; exact hv
  | message i =>
    have hv' : childOK i v = true := by simpa [elemOK] using hv
    have hnn := H.nn i v hv'
    simp only [repElem, hnn, Bool.false_eq_true, if_false, specElem, H.enc i v hv', elemOK,
      H.ok i v hv', Bool.or_true, and_self]

theorem entry_rep (H : RepChild childOK child rn) {kk : Kind} {e : Elem} {en : Val}
    (hv : entryOK childOK false kk e en = true) :
    specEntry child kk e (normEntry rn kk e en) = specEntry child kk e en ∧
    entryOK childOK false kk e (normEntry rn kk e en) = true := by
  obtain ⟨k, x, rfl, hk, hx⟩ := entryOK_iff.1 hv
  obtain ⟨h1, h2⟩ := specElem_rep H hx
  refine ⟨?_, ?_⟩
  · simp only [specEntry, normEntry, Val.key, Val.value, h1]
    rw [specScalar_congr kk (repScalar_getBits rn kk k) (repScalar_getBlob rn kk k)]
  · simp only [entryOK, normEntry, Val.key, Val.value, h2, scalarOK_rep, hk, Bool.and_self]

theorem slot_rep (H : RepChild childOK child rn) {f : FieldDesc} {v : Val}
    (hv : slotOK childOK false f v = true) :
    specField child f (repSlot rn f v) = specField child f v ∧
    slotOK childOK false f (repSlot rn f v) = true := by
  cases hs : f.shape with
  | singular =>
    rw [slotOK_singular_iff hs] at hv
    cases hel : f.elem with
    | scalar k =>
      rw [hel] at hv
      simp only [specField, repSlot, slotOK, hs, hel]
      refine ⟨?_, ?_⟩
      · rw [specScalar_congr k (repScalar_getBits rn k v) (repScalar_getBlob rn k v),
          specPresent_congr k (repScalar_getBits rn k v) (repScalar_getBlob rn k v)]
      · simp only [elemOK] at hv ⊢
        rw [scalarOK_rep]; exact hv
    | message i =>
      rw [hel] at hv
      simp only [specField, repSlot, slotOK, hs, hel]
      by_cases hnone : v.isNone = true
      · simp only [repElem, hnone, if_true]
        exact ⟨trivial, hv⟩
      · have hnone' : v.isNone = false := by simpa using hnone
        obtain ⟨h1, h2⟩ := specElem_rep H (elemOK_of_not_none hv hnone')
        have hrn : (repElem rn (.message i) v).isNone = false := by
          simp only [repElem, hnone', Bool.false_eq_true, if_false]
          exact H.rnn i v hnone'
        refine ⟨?_, ?_⟩
        · simp only [hrn, hnone', Bool.false_eq_true, if_false, h1]
        · simp only [elemOK, Bool.and_false, Bool.false_or] at h2
          simp only [elemOK, h2, Bool.or_true]
  | oneof g =>
    rcases (slotOK_oneof_iff hs).1 hv with rfl | ⟨x, rfl, hx⟩ | ⟨-, hjunk⟩
    · simp [specField, repSlot, slotOK, hs]
    · obtain ⟨h1, h2⟩ := specElem_rep H hx
      simp only [specField, repSlot, slotOK, hs, h1, h2, and_self]
    · cases hjunk
  | repeated pk =>
    obtain ⟨nn, es, rfl, hes⟩ := (slotOK_repeated_iff hs).1 hv
    have hall : ∀ x ∈ es, specElem child f.elem (repElem rn f.elem x) = specElem child f.elem x ∧
        elemOK childOK f.elem false (repElem rn f.elem x) = true :=
      fun x hx => specElem_rep H (hes x hx)
    have hm1 : (es.map (repElem rn f.elem)).map (specElem child f.elem) = es.map (specElem child f.elem) := by
      rw [List.map_map]
      exact List.map_congr_left (fun x hx => (hall x hx).1)
    have hm2 : (es.map (repElem rn f.elem)).map (fun x => specTag f ++ specElem child f.elem x) =
        es.map (fun x => specTag f ++ specElem child f.elem x) := by
      rw [List.map_map]
      exact List.map_congr_left (fun x hx => by simp only [Function.comp, (hall x hx).1])
    refine ⟨?_, ?_⟩
    · simp only [specField, repSlot, hs, Val.elems, hm1, hm2, List.isEmpty_map]
      rfl
    · simp only [slotOK, repSlot, hs, Val.elems, List.all_map, List.all_eq_true]
      exact fun x hx => (hall x hx).2
  | map kk =>
    obtain ⟨nn, es, rfl, hents, hd⟩ := (slotOK_map_iff hs).1 hv
    have hall : ∀ en ∈ es, specEntry child kk f.elem (normEntry rn kk f.elem en) = specEntry child kk f.elem en ∧
        entryOK childOK false kk f.elem (normEntry rn kk f.elem en) = true :=
      fun en hen => entry_rep H (hents en hen)
    have hkeys : ∀ en ∈ es, scalarOK kk en.key = true := fun en hen => entryOK_key (hents en hen)
    have hsorted : ((sortEntries kk es).map (normEntry rn kk f.elem)).Pairwise
        (fun a b => entryLt kk a b = true) := by
      rw [List.pairwise_map]
      exact (sortEntries_sorted kk es hkeys hd).imp (fun {a b} h => by rw [entryLt_normEntry]; exact h)
    rw [repSlot_map hs, Val.elems, sortEntries_map_normEntry]
    refine ⟨?_, ?_⟩
    · simp only [specField, hs, Val.elems]
      rw [sortEntries_of_sorted kk _ hsorted, List.map_map]
      congr 1
      apply List.map_congr_left
      intro en hen
      have hen' : en ∈ es := (sortEntries_perm kk es).mem_iff.1 hen
      simp only [Function.comp, (hall en hen').1]
    · simp only [slotOK, hs, Bool.and_eq_true, List.all_eq_true]
      refine ⟨?_, ?_⟩
      · intro x hx
        rw [List.mem_map] at hx
        obtain ⟨en, hen, rfl⟩ := hx
        exact (hall en ((sortEntries_perm kk es).mem_iff.1 hen)).2
      · exact distinctKeys_map_normEntry rn kk f.elem (distinctKeys_perm (sortEntries_perm kk es).symm hd)

end level

theorem sortFV_map_snd (h : FieldDesc × Val → FieldDesc × Val) (hh : ∀ p, (h p).1 = p.1)
    (l : List (FieldDesc × Val)) : sortFV (l.map h) = (sortFV l).map h := by
  rw [sortFV_eq, sortFV_eq]
  apply isort_map legacyLt legacyLt h
  intro a b
  simp only [legacyLt, hh]

theorem oneofOK_map (h : FieldDesc × Val → FieldDesc × Val) (hh : ∀ p, (h p).1 = p.1)
    (hn : ∀ p, p.1.isOneof = true → (h p).2.isNone = p.2.isNone)
    (l : List (FieldDesc × Val)) (hl : oneofOK l = true) : oneofOK (l.map h) = true := by
  unfold oneofOK at hl ⊢
  rw [List.all_eq_true] at hl ⊢
  intro q hq
  obtain ⟨p, hp, rfl⟩ := List.mem_map.1 hq
  have := hl p hp
  rw [hh]
  cases hg : p.1.group? with
  | none => rfl
  | some g =>
    rw [hg] at this
    have hpo : p.1.isOneof = true := by rw [isOneof_eq_isSome, hg]; rfl
    simp only [hn p hpo]
    have hf : (l.map h).filter (fun q => q.1.group? == some g && !q.2.isNone) =
        (l.filter (fun q => q.1.group? == some g && !q.2.isNone)).map h := by
      rw [List.filter_map]
      congr 1
      apply List.filter_congr
      intro r _
      simp only [Function.comp, hh]
      by_cases hr : r.1.group? = some g
      · have hro : r.1.isOneof = true := by rw [isOneof_eq_isSome, hr]; rfl
        simp [hn r hro]
      · have hb : (r.1.group? == some g) = false := beq_eq_false_iff_ne.2 hr
        simp [hb]
    rw [hf, List.length_map]
    exact this

theorem repNorm_ok (S : Schema) : ∀ (fuel i : Nat) (v : Val), msgOK S false fuel i v = true →
    msgOK S false fuel i (repNorm S fuel i v) = true ∧
    specEncode S fuel i (repNorm S fuel i v) = specEncode S fuel i v := by
  intro fuel
  induction fuel with
  | zero => intro i v h; simp [msgOK] at h
  | succ fuel ih =>
    intro i v hv
    have H : RepChild (msgOK S false fuel) (specEncode S fuel) (repNorm S fuel) :=
      ⟨fun j x hx => (ih j x hx).1, fun j x hx => (ih j x hx).2, fun j x hx => msgOK_not_none hx,
       fun j x hx => (repNorm_isNone S fuel j x).trans hx⟩
    obtain ⟨slots, u, rfl, hlen, hslots, hone⟩ := msgOKLvl_iff.1 hv
    let h : FieldDesc × Val → FieldDesc × Val := fun p => (p.1, repSlot (repNorm S fuel) p.1 p.2)
    have hzip : (S.msg i).fields.zip (((S.msg i).fields.zip slots).map
        (fun p => repSlot (repNorm S fuel) p.1 p.2)) = ((S.msg i).fields.zip slots).map h :=
      zip_zip_map _ _ _
    have hall : ∀ p ∈ (S.msg i).fields.zip slots,
        specField (specEncode S fuel) p.1 (repSlot (repNorm S fuel) p.1 p.2) =
          specField (specEncode S fuel) p.1 p.2 ∧
        slotOK (msgOK S false fuel) false p.1 (repSlot (repNorm S fuel) p.1 p.2) = true :=
      fun p hp => slot_rep H (hslots p hp)
    refine ⟨?_, ?_⟩
    · simp only [repNorm, msgOK, msgOKLvl, Bool.and_eq_true, beq_iff_eq, List.all_eq_true, hzip]
      refine ⟨⟨?_, ?_⟩, ?_⟩
      · simp only [List.length_map, List.length_zip, hlen]; omega
      · intro q hq
        obtain ⟨p, hp, rfl⟩ := List.mem_map.1 hq
        exact (hall p hp).2
      · exact oneofOK_map h (fun _ => rfl) (fun p hp => repSlot_isNone p.1 p.2 hp) _ hone
    · simp only [repNorm, specEncode, Val.isNone, Bool.false_eq_true, if_false, specEncodeLvl,
        Val.slots, Val.unknown, hzip]
      rw [sortFV_map_snd h (fun _ => rfl), List.map_map]
      congr 2
      apply List.map_congr_left
      intro p hp
      rw [sortFV_eq, mem_isort] at hp
      exact (hall p hp).1

end Pulsar
