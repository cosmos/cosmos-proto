/-
  Pulsar.Proofs.RuntimeVarint — `runtime.Sov` / `Soz` / `EncodeVarint` against protowire: `sov` is the length of `varint`
  (both follow the same recursion on `x / 128`; `bits.Len64` enters through `bitLen_le_iff` and `bitLen_div_two_pow`),
  `soz` that of the zig-zag encoding, and `encodeVarint` writes exactly `varint v` in front of the offset.
-/
import Pulsar.Runtime
import Pulsar.Proofs.Wire
namespace Pulsar

theorem bitLen_zero : bitLen 0 = 0 := by rw [bitLen]; simp

theorem bitLen_pos {n : Nat} (h : n ≠ 0) : bitLen n = bitLen (n / 2) + 1 := by
  rw [bitLen]; simp [h]

theorem bitLen_le_iff : ∀ (k n : Nat), bitLen n ≤ k ↔ n < 2 ^ k := by
  intro k
  induction k with
  | zero =>
    intro n
    by_cases hn : n = 0
    · subst hn; simp [bitLen_zero]
    · rw [bitLen_pos hn]; simp; omega
  | succ k ih =>
    intro n
    by_cases hn : n = 0
    · subst hn; simp [bitLen_zero, Nat.two_pow_pos]
    · rw [bitLen_pos hn, Nat.add_le_add_iff_right, ih, Nat.pow_succ]; omega

theorem bitLen_div_two_pow (k : Nat) : ∀ n, bitLen (n / 2 ^ k) = bitLen n - k := by
  induction k with
  | zero => intro n; simp
  | succ k ih =>
    intro n
    rw [Nat.pow_succ, Nat.mul_comm, ← Nat.div_div_eq_div_mul, ih]
    by_cases hn : n = 0
    · subst hn; simp [bitLen_zero]
    · rw [bitLen_pos hn]; omega

theorem or_one_ne_zero (x : Nat) : x ||| 1 ≠ 0 := by
  intro h
  have := Nat.or_eq_zero_iff.mp h
  omega

theorem bitLen_or_one_of_ne_zero {x : Nat} (h : x ≠ 0) : bitLen (x ||| 1) = bitLen x := by
  rw [bitLen_pos (or_one_ne_zero x), bitLen_pos h, Nat.or_div_two]; simp

theorem sov_lt_128 {x : Nat} (h : x < 128) : sov x = 1 := by
  unfold sov
  have h1 : x ||| 1 < 2 ^ 7 := Nat.or_lt_two_pow (by omega) (by omega)
  have h2 := (bitLen_le_iff 7 _).2 h1
  have h3 := bitLen_pos (or_one_ne_zero x)
  omega

theorem sov_ge_128 {x : Nat} (h : 128 ≤ x) : sov x = sov (x / 128) + 1 := by
  unfold sov
  rw [bitLen_or_one_of_ne_zero (x := x) (by omega), bitLen_or_one_of_ne_zero (x := x / 128) (by omega)]
  have h1 := bitLen_div_two_pow 7 x
  have h2 := bitLen_pos (n := x / 128) (by omega)
  simp only [Nat.reducePow] at h1
  omega

theorem sov_eq_varint_length (x : Nat) : sov x = (varint x).length := by
  induction x using Nat.strongRecOn with
  | _ x ih =>
    by_cases h : x < 128
    · rw [sov_lt_128 h, varint_lt_128 h]; rfl
    · have h' : 128 ≤ x := by omega
      rw [sov_ge_128 h', varint_ge_128 h', ih (x / 128) (by omega)]; rfl

theorem sov_pos (x : Nat) : 0 < sov x := by
  rw [sov_eq_varint_length]
  exact varint_length_pos x

theorem xor_two_pow_sub_one {y n : Nat} (h : y < 2 ^ n) : y ^^^ (2 ^ n - 1) = 2 ^ n - (y + 1) := by
  apply Nat.eq_of_testBit_eq
  intro i
  rw [Nat.testBit_xor, Nat.testBit_two_pow_sub_one, Nat.testBit_two_pow_sub_succ h]
  by_cases hi : i < n
  · simp [hi]
  · have : y < 2 ^ i := Nat.lt_of_lt_of_le h (Nat.pow_le_pow_right (by omega) (by omega))
    simp [hi, Nat.testBit_lt_two_pow this]

theorem soz_eq_sov_zigzag64 (x : Nat) (hx : x < 18446744073709551616) : soz x = sov (zigzag64 x) := by
  unfold soz zigzag64
  by_cases h : x < 9223372036854775808
  · simp only [h, if_true, Nat.xor_zero]; congr 1; omega
  · simp only [h, if_false]
    have := xor_two_pow_sub_one (show (x * 2) % 18446744073709551616 < 2 ^ 64 by omega)
    simp only [show (2:Nat) ^ 64 = 18446744073709551616 from by decide,
      show 18446744073709551616 - 1 = 18446744073709551615 from by decide] at this
    rw [this]; congr 1; omega

theorem soz_eq_varint_length (x : Nat) (hx : x < 18446744073709551616) :
    soz x = (varint (zigzag64 x)).length := by
  rw [soz_eq_sov_zigzag64 x hx, sov_eq_varint_length]

theorem setAt_neg (d : Bytes) (i : Int) (b : UInt8) (h : i < 0) : setAt d i b = .panic := by
  simp [setAt, h]

theorem setAt_nat (d : Bytes) (p : Nat) (b : UInt8) :
    setAt d (p : Int) b = if p < d.length then .ok (d.set p b) else .panic := by
  have : ¬ ((p : Int) < 0) := by omega
  simp [setAt, this]

theorem encodeVarintLoop_neg (d : Bytes) (i : Int) (v : Nat) (h : i < 0) :
    encodeVarintLoop d i v = .panic := by
  rw [encodeVarintLoop]
  split
  · exact setAt_neg _ _ _ h
  · rw [setAt_neg _ _ _ h]

theorem encodeVarintLoop_nat (v : Nat) : ∀ (d : Bytes) (p : Nat),
    encodeVarintLoop d (p : Int) v =
      if p + sov v ≤ d.length then .ok (d.take p ++ varint v ++ d.drop (p + sov v)) else .panic := by
  induction v using Nat.strongRecOn with
  | _ v ih =>
    intro d p
    by_cases h : v < 128
    · rw [encodeVarintLoop, dif_pos h, setAt_nat, sov_lt_128 h, varint_lt_128 h]
      by_cases hp : p < d.length
      · rw [if_pos hp, if_pos (by omega), List.set_eq_take_append_cons_drop, if_pos hp, List.append_assoc]
        rfl
      · rw [if_neg hp, if_neg (by omega)]
    · have h' : 128 ≤ v := by omega
      rw [encodeVarintLoop, dif_neg h, setAt_nat, sov_ge_128 h', varint_ge_128 h']
      by_cases hp : p < d.length
      · rw [if_pos hp]
        simp only []
        have hc : ((p : Int) + 1) = ((p + 1 : Nat) : Int) := by omega
        rw [hc, ih (v / 128) (by omega), List.length_set]
        by_cases hq : p + 1 + sov (v / 128) ≤ d.length
        · rw [if_pos hq, if_pos (by omega)]
          have e1 : List.take (p + 1) (d.set p (v % 128 + 128).toUInt8)
              = d.take p ++ [(v % 128 + 128).toUInt8] := by
            rw [List.take_succ_eq_append_getElem (by rw [List.length_set]; exact hp),
              List.take_set_of_le (Nat.le_refl p), List.getElem_set_self]
          have e2 : List.drop (p + 1 + sov (v / 128)) (d.set p (v % 128 + 128).toUInt8)
              = d.drop (p + 1 + sov (v / 128)) := List.drop_set_of_lt (by omega)
          rw [e1, e2]
          have e3 : p + (sov (v / 128) + 1) = p + 1 + sov (v / 128) := by omega
          rw [e3]; simp
        · rw [if_neg hq, if_neg (by omega)]
      · rw [if_neg hp, if_neg (by have := sov_pos (v / 128); omega)]

theorem encodeVarint_spec (d : Bytes) (off v : Nat) :
    encodeVarint d off v =
      if sov v ≤ off ∧ off ≤ d.length
      then .ok (d.take (off - sov v) ++ varint v ++ d.drop off, ((off - sov v : Nat) : Int))
      else .panic := by
  unfold encodeVarint
  by_cases hs : sov v ≤ off
  · have hb : ((off : Int) - (sov v : Int)) = ((off - sov v : Nat) : Int) := by omega
    simp only [hb]
    rw [encodeVarintLoop_nat]
    have e : off - sov v + sov v = off := by omega
    rw [e]
    by_cases hl : off ≤ d.length
    · simp [hs, hl]
    · simp [hl]
  · have hb : ((off : Int) - (sov v : Int)) < 0 := by omega
    simp only []
    rw [encodeVarintLoop_neg _ _ _ hb]
    simp [hs]

theorem sov_300 : sov 300 = 2 := by
  rw [sov_eq_varint_length, varint_ge_128 (by omega), varint_lt_128 (by omega)]; rfl

end Pulsar
