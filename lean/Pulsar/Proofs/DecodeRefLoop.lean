/-
  Pulsar.Proofs.DecodeRefLoop — the generated closure against the strict reference decoder: element, slot,
  record, loop, tree, and `proto.Unmarshal` at the entry point (C03). `specSlotStep` and `slotStep` have the same
  shape and share `storeSlot`, so the agreement is about what they read: one element (`specReadElem_impl`), a
  packed run (`packed_agree`) or a map entry (`entry_agree`).
-/
import Pulsar.Proofs.DecodeRefEntry
import Pulsar.Proofs.Walk
namespace Pulsar

theorem specReadElem_impl (S : Schema) {cs ci : Nat → Val → Bytes → Res Val} (H : ChildAgree cs ci)
    {e : Elem} {old v : Val} {r r' : Bytes} (hl : r.length < 9223372036854775808)
    (h : specReadElem cs S e old r = .ok (v, r')) : implReadMapField ci S e old r = .ok (v, r') := by
  cases e with
  | scalar k => exact specReadScalar_impl hl h
  | message i =>
    obtain ⟨p, hrd, hc, hq⟩ := specPayload_impl hl h
    rw [implReadMapField_message, hrd, Res.bind_ok, (H _ _ _ _ (Elem.orEmpty_isNone S i old) (by omega) hc).1]
    rfl

theorem specPayload_impl_len {α : Type} {X : Bytes → Res α} {r r' : Bytes} {x : α}
    (hl : r.length < 9223372036854775808) (h : specPayload X r = .ok (x, r')) :
    ∃ n r1, readLen r = .ok (n, r1) ∧ n ≤ r1.length ∧ r1.length < r.length ∧ X (r1.take n) = .ok x ∧ r' = r1.drop n := by
  obtain ⟨⟨p, r1⟩, hld, h⟩ := Res.bind_eq_ok.1 h
  obtain ⟨x', hx, h⟩ := Res.mapR_eq_ok.1 h
  cases h
  obtain ⟨n, r2, hcv, hn, rfl, rfl⟩ := specLenDelim_eq_ok hld
  exact ⟨n, r2, consumeVarint_impl_len hl hcv hn, hn, consumeVarint_length hcv, hx, rfl⟩

theorem slot_agree (S : Schema) {cs ci : Nat → Val → Bytes → Res Val} (H : ChildAgree cs ci)
    {f : FieldDesc} {wt : Nat} {cur v : Val} {r r' : Bytes}
    (hl : r.length < 9223372036854775808) (hacc : f.accepts wt = true)
    (h : specSlotStep true S cs f wt cur r = .ok (v, r')) : slotStep S ci f wt cur r = .ok (v, r') := by
  unfold FieldDesc.accepts at hacc
  unfold specSlotStep at h
  unfold slotStep
  split at h
  · -- a map entry: the loops agree up to the lazily allocated value
    rename_i kk hsh
    obtain ⟨⟨k, v1⟩, hp, rfl⟩ := Res.mapFst_eq_ok.1 h
    obtain ⟨n, r1, hrl, hn, hr1, hX, rfl⟩ := specPayload_impl_len hl hp
    rw [List.length_take, Nat.min_eq_left hn] at hX
    have hrel : VRel S f.elem f.elem.zeroVar (specV0 S f.elem) := by
      unfold specV0
      cases f.elem with
      | scalar k => rfl
      | message mi => exact Or.inl ⟨rfl, rfl⟩
    obtain ⟨vi', hi, hrel'⟩ := entry_agree S H (t := [])
      (by rw [List.append_nil, List.length_take]; omega) hrel hX
    rw [List.append_nil, List.length_take, Nat.min_eq_left hn] at hi
    have hfin : f.elem.orEmpty S vi' = v1 := by
      unfold Elem.orEmpty
      cases hfe : f.elem with
      | scalar k =>
        rw [hfe] at hrel'
        exact hrel'
      | message mi =>
        rw [hfe] at hrel'
        rcases hrel' with ⟨rfl, rfl⟩ | ⟨rfl, hv⟩
        · rfl
        · simp [hv]
    simp only [hsh] at hacc ⊢
    rw [if_pos (by simpa using hacc), hrl, Res.bind_ok]
    dsimp only
    rw [hi, Res.mapR_ok, hfin]
  · rename_i shape hsh
    split
    · rename_i kk hmap
      exact absurd hmap (hsh kk)
    by_cases hw : wt = f.elem.wireType
    · -- one element
      rw [if_pos hw] at h ⊢
      obtain ⟨x, hs, rfl⟩ := Res.mapFst_eq_ok.1 h
      rw [specReadElem_impl S H hl hs]
      rfl
    · rw [if_neg hw] at h ⊢
      split at h
      · -- a packed run
        rename_i pk k hrep hel
        obtain ⟨vs, hpl, rfl⟩ := Res.mapFst_eq_ok.1 h
        obtain ⟨n, r1, hrl, hn, hr1, hX, rfl⟩ := specPayload_impl_len hl hpl
        simp only [hrep, hel, decide_eq_true_eq] at hacc hw ⊢
        have h2 : wt = 2 := hacc.resolve_left hw
        rw [List.length_take, Nat.min_eq_left hn] at hX
        have hpa := packed_agree (t := r1.drop n) (by simp only [List.length_take]; omega)
          (by rw [List.take_append_drop]; omega) hX
        rw [List.take_append_drop, List.length_take, Nat.min_eq_left hn] at hpa
        rw [if_pos h2, hrl, Res.bind_ok]
        dsimp only
        rw [hpa]
        rfl
      · cases h

theorem record_agree (S : Schema) (i : Nat) (o : UOpts) {cs ci : Nat → Val → Bytes → Res Val} (H : ChildAgree cs ci)
    {m m' : Val} {rest r' : Bytes} (hm : m.isNone = false) (hl : rest.length < 9223372036854775808)
    (h : specStep true S i o cs m rest = .ok (m', r')) :
    implRecord S i o ci m rest = .ok (m', r') ∧ m'.isNone = false := by
  obtain ⟨⟨num, wt, r⟩, ht, h⟩ := Res.bind_eq_ok.1 h
  dsimp only at h
  by_cases hnum : num > 536870911
  · rw [if_pos hnum] at h
    cases h
  rw [if_neg hnum] at h
  obtain ⟨wire, hread, hfn, hwt, h1, hlen⟩ := consumeTag_impl ht (by omega)
  subst hfn hwt
  unfold implRecord
  rw [hread, Res.bind_ok]
  dsimp only
  cases hf : findField (S.msg i).fields (wire / 8 % 4294967296) with
  | none =>
    -- an undeclared number: `Skip` walks the record protowire consumed
    rw [hf] at h
    obtain ⟨r2, hv, h2⟩ := Res.bind_eq_ok.1 h
    cases h2
    obtain ⟨hs, hlt, hd⟩ := unknown_record ht hv hl
    have hw4 : wire % 8 ≠ 4 := fun e => consumeValue_not_ok (Or.inl e) hv
    rw [if_neg hw4, if_neg (by omega), hs, Res.bind_ok, if_neg (by omega), hd]
    refine ⟨rfl, ?_⟩
    split
    · exact hm
    · rfl
  | some jf =>
    rw [hf] at h
    dsimp only at h
    by_cases hacc : jf.2.accepts (wire % 8) = true
    · rw [if_pos hacc] at h
      obtain ⟨v, hv, rfl⟩ := Res.mapFst_eq_ok.1 h
      rw [if_neg (FieldDesc.accepts_ne_4 hacc), if_neg (by omega)]
      dsimp only
      rw [implKnownField_eq, slot_agree S H (by omega) hacc hv]
      exact ⟨rfl, storeSlot_isNone hm⟩
    · rw [if_neg hacc, if_pos rfl] at h
      cases h

theorem loop_agree (S : Schema) (i : Nat) (o : UOpts) {cs ci : Nat → Val → Bytes → Res Val} (H : ChildAgree cs ci)
    {fuel : Nat} {m : Val} {rest : Bytes} {v : Val} (hm : m.isNone = false) (hl : rest.length < 9223372036854775808)
    (h : specDecodeLoop true S i o cs fuel m rest = .ok v) :
    implUnmarshalLoop S i o ci fuel m rest = .ok v ∧ v.isNone = false := by
  induction fuel generalizing m rest with
  | zero =>
    cases h
    exact ⟨rfl, hm⟩
  | succ fuel ih =>
    rw [specDecodeLoop_succ] at h
    rw [implUnmarshalLoop_succ]
    by_cases hb : rest = []
    · rw [if_pos hb] at h ⊢
      cases h
      exact ⟨rfl, hm⟩
    · rw [if_neg hb] at h ⊢
      obtain ⟨⟨m', r'⟩, hs, h⟩ := Res.bind_eq_ok.1 h
      obtain ⟨hr, hm'⟩ := record_agree S i o H hm hl hs
      have hlt := implRecord_length hr
      rw [hr, Res.bind_ok]
      dsimp only
      rw [if_pos hlt]
      exact ih hm' (by omega) h

/-- protobuf-go's recursion budget (`depth : Nat`, error at 0) against the generated code's
    (`UnmarshalInput.Depth : int`, error when negative, `nestedRecursionLimit` for children). -/
def DepthRel (depth : Nat) (d : Int) : Prop := (1 ≤ depth ∧ d = depth) ∨ (depth = 0 ∧ d = -1)

theorem depthRel_step {depth : Nat} {d : Int} (h : DepthRel depth d) (h0 : depth ≠ 0) :
    DepthRel (depth - 1) (nestedLimit d) := by
  rcases h with ⟨h1, rfl⟩ | ⟨h1, _⟩
  · by_cases h2 : depth = 1
    · subst h2
      exact Or.inr ⟨rfl, rfl⟩
    · rw [nestedLimit_of_two_le (by omega)]
      exact Or.inl ⟨by omega, by omega⟩
  · exact absurd h1 h0

theorem closure_agree (S : Schema) (o : UOpts) {fuel depth : Nat} {d : Int} {i : Nat} {into : Val} {bs : Bytes} {v : Val}
    (hd : DepthRel depth d) (hi : into.isNone = false) (hl : bs.length < 9223372036854775808)
    (h : specDecodeInto true S o fuel depth i into bs = .ok v) :
    implUnmarshalClosure S o fuel d i into bs = .ok v ∧ v.isNone = false := by
  induction fuel generalizing depth d i into bs v with
  | zero =>
    cases h
    exact ⟨rfl, hi⟩
  | succ fuel ih =>
    rw [specDecodeInto] at h
    split at h
    · cases h
    · rename_i h0
      have hd' := depthRel_step hd h0
      have hdn : ¬ d < 0 := by
        rcases hd with ⟨h1, rfl⟩ | ⟨h1, _⟩
        · omega
        · exact absurd h1 h0
      rw [implUnmarshalClosure_succ]
      simp only [hi, Bool.false_eq_true, if_false, hdn]
      exact loop_agree S i o (fun i' into' p v' hi' hp hc => ih hd' hi' hp hc) hi hl h

theorem isNone_start {S : Schema} {o : UOpts} {i : Nat} {m0 : Val} (hnn : m0.isNone = false) :
    (if o.merge then m0 else emptyMsg S i).isNone = false := by
  split
  · exact hnn
  · rfl

theorem unmarshal_agree (S : Schema) (o : UOpts) (i : Nat) (m0 : Val) (bs : Bytes) (v : Val)
    (hl : bs.length < 9223372036854775808) (hnn : m0.isNone = false)
    (h : specUnmarshalStrict S o i m0 bs = .ok v) :
    implUnmarshal S o i m0 bs = .ok v := by
  obtain ⟨hc, _⟩ := closure_agree S o (depth := 10000) (d := 10000) (Or.inl ⟨by decide, rfl⟩) (isNone_start hnn) hl h
  rw [implUnmarshal_eq, hnn, Bool.and_false, if_neg Bool.false_ne_true, hc]

theorem specUnmarshalStrict_isNone (S : Schema) (o : UOpts) (i : Nat) (m0 : Val) (bs : Bytes) (v : Val)
    (hl : bs.length < 9223372036854775808) (hnn : m0.isNone = false)
    (h : specUnmarshalStrict S o i m0 bs = .ok v) : v.isNone = false :=
  (closure_agree S o (depth := 10000) (d := 10000) (Or.inl ⟨by decide, rfl⟩) (isNone_start hnn) hl h).2

end Pulsar
