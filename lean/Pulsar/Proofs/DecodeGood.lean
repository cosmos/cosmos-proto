/-
  Pulsar.Proofs.DecodeGood — everything the decoder builds (from a fresh target) is `Good`: zig-zag
  scalars in range, no typed-nil oneof wrapper; so `proto.Marshal` of a decoded message cannot panic
  (C06_post_usable, for schemas without packed message fields).
-/
import Pulsar.Proofs.MarshalTotal
import Pulsar.Proofs.DecodeNoPanic
import Pulsar.Proofs.RtScalar
namespace Pulsar.PU
open Pulsar

theorem implReadScalar_range {k : Kind} {rest : Bytes} {v : Val} {r : Bytes}
    (h : implReadScalar k rest = .ok (v, r)) : rangeOK k v = true := by
  cases k <;> try rfl
  · -- sint32
    simp only [implReadScalar] at h
    split at h
    · simp only [Res.ok.injEq, Prod.mk.injEq] at h
      obtain ⟨rfl, _⟩ := h
      simp only [rangeOK, Val.getBits]
      exact decide_eq_true (unzigzag32_lt (Nat.mod_lt _ (by decide)))
    · simp at h
    · simp at h
  · -- sint64
    simp only [implReadScalar] at h
    split at h
    · have := readVarint_lt ‹readVarint _ = Res.ok _›
      simp only [Res.ok.injEq, Prod.mk.injEq] at h
      obtain ⟨rfl, _⟩ := h
      simp only [rangeOK, Val.getBits]
      exact decide_eq_true (unzigzag64_lt this)
    · simp at h
    · simp at h

theorem rangeOK_zeroVar (k : Kind) : rangeOK k (Elem.zeroVar (.scalar k)) = true := by
  cases k <;> rfl

/-! ## the invariant, fuel-free -/

variable (S : Schema)

/-- good at every marshal fuel -/
def GoodAll (i : Nat) (v : Val) : Prop := ∀ fuel, Good S fuel i v
def GE (e : Elem) (v : Val) : Prop := ∀ fuel, GElem (Good S fuel) e v
/-- the slots of `m`, read as a message of type `i` -/
def LvlGood (i : Nat) (m : Val) : Prop := ∀ p ∈ (S.msg i).fields.zip m.slots, GSlot (GoodAll S) p.1 p.2

/-- no packed repeated message field (protoc rejects them; implied by `Schema.WF`) -/
def NoPackedMsg : Prop := ∀ i, ∀ f ∈ (S.msg i).fields, f.shape = .repeated true → ∃ k, f.elem = .scalar k

theorem GE_message {i : Nat} {v : Val} : GE S (.message i) v ↔ GoodAll S i v := Iff.rfl

theorem GElem_goodAll {e : Elem} {v : Val} (h : GE S e v) : GElem (GoodAll S) e v := by
  cases e with
  | scalar k => exact h 0
  | message i => exact h

theorem GSlot_goodAll {f : FieldDesc} {v : Val} (h : ∀ fuel, GSlot (Good S fuel) f v) : GSlot (GoodAll S) f v := by
  have elem : ∀ {e x}, GE S e x → GElem (GoodAll S) e x := GElem_goodAll S
  unfold GSlot at h ⊢
  split
  · rename_i hs
    simp only [hs] at h
    by_cases hn : v.isNone = true
    · exact Or.inl hn
    · exact Or.inr (elem fun fuel => (h fuel).resolve_left hn)
  · rename_i hs
    simp only [hs] at h
    exact ⟨(h 0).1, fun x hx => elem fun fuel => (h fuel).2 x hx⟩
  · rename_i hs
    simp only [hs] at h
    exact ⟨(h 0).1, fun x hx => elem fun fuel => (h fuel).2 x hx⟩
  · rename_i hs
    simp only [hs] at h
    exact fun en hen => ⟨(h 0 en hen).1, elem fun fuel => (h fuel en hen).2⟩

theorem goodAll_of_lvl {i : Nat} {m : Val} (h : LvlGood S i m) : GoodAll S i m := by
  intro fuel
  cases fuel with
  | zero => trivial
  | succ fuel => exact Or.inr fun p hp => GSlot_mono (fun _ _ hg => hg fuel) (h p hp)

theorem goodAll_none {i : Nat} {m : Val} (h : m.isNone = true) : GoodAll S i m := by
  intro fuel
  cases fuel with
  | zero => trivial
  | succ fuel => exact Or.inl h

theorem lvl_of_goodAll {i : Nat} {m : Val} (hn : m.isNone = false) (h : GoodAll S i m) : LvlGood S i m := by
  intro p hp
  refine GSlot_goodAll S fun fuel => ?_
  rcases h (fuel + 1) with h | h
  · rw [hn] at h; cases h
  · exact h p hp

theorem GSlot_none {f : FieldDesc} (hp : f.shape = .repeated true → ∃ k, f.elem = .scalar k) :
    GSlot (GoodAll S) f .none := by
  unfold GSlot
  split
  · exact Or.inl rfl
  · exact ⟨nofun, nofun⟩
  · rename_i pk hs
    exact ⟨fun h => hp (by rw [hs, h]), nofun⟩
  · exact nofun

theorem GSlot_zero {f : FieldDesc} (hp : f.shape = .repeated true → ∃ k, f.elem = .scalar k) :
    GSlot (GoodAll S) f f.zero := by
  unfold FieldDesc.zero
  split
  · -- a singular scalar: 0 or the empty string
    rename_i k hs he
    simp only [GSlot, hs, he]
    exact Or.inr (rangeOK_zeroVar k)
  · exact GSlot_none S hp
  · rename_i pk _ hs
    simp only [GSlot, hs]
    exact ⟨fun h => hp (by rw [hs, h]), nofun⟩
  · rename_i kk _ hs
    simp only [GSlot, hs]
    exact nofun
  · exact GSlot_none S hp

theorem lvlGood_emptyMsg (hS : NoPackedMsg S) (i : Nat) : LvlGood S i (emptyMsg S i) := by
  intro p hp
  rw [mem_zip_map_zero hp]
  exact GSlot_zero S (hS i p.1 (List.of_mem_zip hp).1)

theorem goodAll_emptyMsg (hS : NoPackedMsg S) (i : Nat) : GoodAll S i (emptyMsg S i) :=
  goodAll_of_lvl S (lvlGood_emptyMsg S hS i)

/-! ## the decoder keeps it -/

section dec
variable {S}
variable {c : Nat → Val → Bytes → Res Val}

/-- the child decoder keeps good targets good -/
def ChildGood (S : Schema) (c : Nat → Val → Bytes → Res Val) : Prop :=
  ∀ i into p v, GoodAll S i into → c i into p = .ok v → GoodAll S i v

theorem lvlGood_storeSlot {i j : Nat} {f : FieldDesc} {m v : Val} (hf : (S.msg i).fields[j]? = some f)
    (hm : LvlGood S i m) (hv : GSlot (GoodAll S) f v) : LvlGood S i (storeSlot (S.msg i).fields f j m v) := by
  have set : ∀ {m : Val}, LvlGood S i m → LvlGood S i (m.setSlot j v) := by
    intro m hm
    cases m with
    | msg s u => exact forall_mem_zip_set (P := GSlot (GoodAll S)) hf hv hm
    | _ => exact hm
  unfold storeSlot
  split
  · -- a cleared oneof member is nil, and a nil slot is good
    refine set (forall_mem_zip_clearGroup (P := GSlot (GoodAll S)) _ _ (fun f' h => GSlot_none S fun hs => ?_) _ hm)
    rw [FieldDesc.group?, hs] at h
    cases h
  · exact set hm

theorem GElem_target {f : FieldDesc} {cur : Val} (hcur : GSlot (GoodAll S) f cur) :
    (f.target cur).isNone = true ∨ GElem (GoodAll S) f.elem (f.target cur) := by
  cases hs : f.shape <;> simp only [GSlot, FieldDesc.target, hs] at hcur ⊢
  case singular => exact hcur
  case oneof =>
    split
    · exact Or.inr (hcur.2 _ rfl)
    · exact Or.inl rfl
  all_goals exact Or.inl rfl

theorem GSlot_put {f : FieldDesc} {cur v : Val} (hsh : ∀ kk, f.shape ≠ .map kk) (hcur : GSlot (GoodAll S) f cur)
    (hv : GElem (GoodAll S) f.elem v) : GSlot (GoodAll S) f (f.put cur v) := by
  cases hs : f.shape <;> simp only [GSlot, FieldDesc.put, hs] at hcur ⊢
  case singular => exact Or.inr hv
  case oneof => exact ⟨nofun, fun x hx => by cases hx; exact hv⟩
  case repeated =>
    refine ⟨hcur.1, fun x hx => ?_⟩
    rcases List.mem_append.1 hx with hx | hx
    · exact hcur.2 x hx
    · cases List.mem_singleton.1 hx
      exact hv
  case map => exact absurd hs (hsh _)

theorem GElem_orEmpty (hS : NoPackedMsg S) {e : Elem} {v : Val} (h : v.isNone = true ∨ GElem (GoodAll S) e v) :
    GElem (GoodAll S) e (e.orEmpty S v) := by
  cases e with
  | message mi =>
    rw [Elem.orEmpty_message]
    split
    · exact goodAll_emptyMsg S hS mi
    · rename_i hn
      exact h.resolve_left hn
  | scalar k =>
    rcases h with hn | hg
    · -- a nil scalar reads as 0
      cases v <;> simp [Val.isNone] at hn
      cases k <;> rfl
    · exact hg

theorem implReadMapField_good (hS : NoPackedMsg S) (hc : ChildGood S c) {e : Elem} {old : Val} {rest : Bytes}
    {v : Val} {r : Bytes} (ho : old.isNone = true ∨ GElem (GoodAll S) e old)
    (h : implReadMapField c S e old rest = .ok (v, r)) : GElem (GoodAll S) e v := by
  cases e with
  | scalar k => exact implReadScalar_range h
  | message i =>
    rw [implReadMapField_message] at h
    obtain ⟨⟨p, r0⟩, _, h⟩ := Res.bind_eq_ok.1 h
    obtain ⟨w, hcv, h⟩ := Res.mapR_eq_ok.1 h
    cases h
    exact hc _ _ _ _ (GElem_orEmpty hS ho) hcv

theorem implEntryLoop_good (hS : NoPackedMsg S) (hc : ChildGood S c) {kk : Kind} {e : Elem}
    {fuel : Nat} {rest : Bytes} {rem : Nat} {k v k' v' : Val} (hk : rangeOK kk k = true)
    (hv : v.isNone = true ∨ GElem (GoodAll S) e v) (h : implEntryLoop c S kk e fuel rest rem k v = .ok (k', v')) :
    rangeOK kk k' = true ∧ (v'.isNone = true ∨ GElem (GoodAll S) e v') :=
  implEntryLoop_inv (P := fun k v => rangeOK kk k = true ∧ (v.isNone = true ∨ GElem (GoodAll S) e v))
    (fun hp hr => ⟨implReadScalar_range hr, hp.2⟩)
    (fun hp hr => ⟨hp.1, Or.inr (implReadMapField_good hS hc hp.2 hr)⟩) ⟨hk, hv⟩ h

theorem slotRead_good (hS : NoPackedMsg S) (hc : ChildGood S c) {f : FieldDesc} {cur : Val} {rest : Bytes}
    {v : Val} {r : Bytes} (hcur : GSlot (GoodAll S) f cur) (h : SlotRead S c f cur rest v r) : GSlot (GoodAll S) f v := by
  cases h with
  | elem hsh hr => exact GSlot_put hsh hcur (implReadMapField_good hS hc (GElem_target hcur) hr)
  | packed hsh hel hn hp =>
    simp only [GSlot, hsh] at hcur ⊢
    refine ⟨hcur.1, fun x hx => ?_⟩
    rcases List.mem_append.1 hx with hx | hx
    · exact hcur.2 x hx
    · rcases implPackedLoop_mem hp x hx with h | ⟨_, _, h⟩
      · cases h
      · rw [hel]; exact implReadScalar_range h
  | @entry kk n r0 k' v' hsh hn he =>
    have hz : f.elem.zeroVar.isNone = true ∨ GElem (GoodAll S) f.elem f.elem.zeroVar := by
      cases f.elem with
      | scalar k => exact Or.inr (rangeOK_zeroVar k)
      | message mi => exact Or.inl rfl
    obtain ⟨hk', hv'⟩ := implEntryLoop_good hS hc (rangeOK_zeroVar kk) hz he
    simp only [GSlot, hsh] at hcur ⊢
    intro en hen
    rcases mem_mapPut hen with h | rfl
    · exact hcur en h
    · exact ⟨hk', GElem_orEmpty hS hv'⟩

theorem implUnmarshalLoop_good (hS : NoPackedMsg S) (hc : ChildGood S c) {i : Nat} {o : UOpts} {fuel : Nat} {m : Val}
    {rest : Bytes} {v : Val} (hm : LvlGood S i m) (h : implUnmarshalLoop S i o c fuel m rest = .ok v) : LvlGood S i v :=
  implUnmarshalLoop_inv (P := LvlGood S i)
    (fun {_ _ f _ _ _} hm hf hs => lvlGood_storeSlot hf hm (slotRead_good hS hc
      (forall_mem_zip_getD (P := GSlot (GoodAll S)) _ hf (fun _ => GSlot_none S (hS i f (List.mem_of_getElem? hf))) hm) hs))
    (fun _ hm => hm) hm h

end dec

theorem implUnmarshalClosure_good (S : Schema) (hS : NoPackedMsg S) (o : UOpts) : ∀ (fuel : Nat) (depth : Int),
    ChildGood S (implUnmarshalClosure S o fuel depth) := by
  intro fuel
  induction fuel with
  | zero =>
    intro depth i into p v hi h
    simp only [implUnmarshalClosure, Res.ok.injEq] at h
    subst h; exact hi
  | succ fuel ih =>
    intro depth i into p v hi h
    rcases implUnmarshalClosure_succ_eq_ok h with ⟨_, rfl⟩ | ⟨hn, _, h⟩
    · exact hi
    · exact goodAll_of_lvl S (implUnmarshalLoop_good hS (ih _) (lvl_of_goodAll S hn hi) h)

theorem noPackedMsg_of_WF (S : Schema) (h : S.WF = true) : NoPackedMsg S := by
  intro i f hf hsh
  obtain ⟨k, hk, _⟩ := FieldDesc.wf_packed (MsgDesc.wf_field (Schema.msg_wf h i) hf) hsh
  exact ⟨k, hk⟩

theorem implMarshal_decoded_size (S : Schema) (hS : NoPackedMsg S) (o : UOpts) (i : Nat) (bs : Bytes) (v : Val)
    (mo : MOpts) (hperm : mo.det = false → ∀ l x, x ∈ mo.perm l → x ∈ l) (fuel : Nat)
    (h : implUnmarshal S o i (emptyMsg S i) bs = .ok v) :
    ∃ b, implMarshal S mo fuel i v = .ok b ∧ b.length = implSize S mo fuel i v := by
  have hg := implUnmarshalClosure_good S hS o _ _ _ _ _ _ (goodAll_emptyMsg S hS i) (implUnmarshal_fresh S o i bs ▸ h)
  obtain ⟨b, hb, hl⟩ := marshalClosure_ok S mo hperm fuel i v (hg fuel)
  exact ⟨b, implMarshal_eq S mo fuel i v ▸ hb, hl⟩

theorem implMarshal_decoded_ne_panic (S : Schema) (hS : NoPackedMsg S) (o : UOpts) (i : Nat) (bs : Bytes) (v : Val)
    (mo : MOpts) (hperm : mo.det = false → ∀ l x, x ∈ mo.perm l → x ∈ l) (fuel : Nat)
    (h : implUnmarshal S o i (emptyMsg S i) bs = .ok v) : implMarshal S mo fuel i v ≠ .panic := by
  obtain ⟨b, hb, _⟩ := implMarshal_decoded_size S hS o i bs v mo hperm fuel h
  rw [hb]
  exact nofun

end Pulsar.PU
