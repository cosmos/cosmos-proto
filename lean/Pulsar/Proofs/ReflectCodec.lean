/-
  The codec ops (`size` / `enc`, `ROp.usesCodec`) of the reflection machines, at a leaf. Their refinement needs that
  `specEncode` only looks `v.depth` levels down and that `utf8OK` does not depend on the representation (`repNorm`);
  `CodecOK` is what these ops need of the state beyond typing, and nested messages inherit it.
-/
import Pulsar.Proofs.ReflectMsg
import Pulsar.Proofs.EncodeTyped
import Pulsar.Proofs.EncodeRep
import Pulsar.Proofs.ValDepth
import Pulsar.Proofs.EncodeEmpty
namespace Pulsar

/-- ops whose output comes from the codec -/
def ROp.usesCodec : ROp → Bool
  | .size => true
  | .enc => true
  | _ => false

theorem Op.usesCodec_r (o : ROp) : (Op.r o).usesCodec = o.usesCodec := by
  cases o <;> rfl

theorem specElem_congr {c c' : Nat → Val → Bytes} {m : Nat} (hc : ∀ i v, v.depth ≤ m → c i v = c' i v)
    (e : Elem) {v : Val} (hd : v.depth ≤ m) : specElem c e v = specElem c' e v := by
  cases e with
  | scalar k => rfl
  | message i => simp only [specElem, hc i v hd]

theorem specField_congr {c c' : Nat → Val → Bytes} {m : Nat} (hc : ∀ i v, v.depth ≤ m → c i v = c' i v)
    (f : FieldDesc) {v : Val} (hd : v.depth ≤ m) : specField c f v = specField c' f v := by
  unfold specField
  cases hs : f.shape with
  | singular =>
    simp only []
    cases he : f.elem with
    | scalar k => rfl
    | message i => simp only [← he, specElem_congr hc f.elem hd]
  | oneof g =>
    cases v <;> try rfl
    simp only [specElem_congr hc f.elem (by simpa using hd)]
  | repeated p =>
    have h : ∀ x ∈ v.elems, specElem c f.elem x = specElem c' f.elem x := fun x hx =>
      specElem_congr hc f.elem (Nat.le_trans (Val.depth_elem_le hx) hd)
    have h1 : v.elems.map (specElem c f.elem) = v.elems.map (specElem c' f.elem) := List.map_congr_left h
    have h2 : v.elems.map (fun x => specTag f ++ specElem c f.elem x)
        = v.elems.map (fun x => specTag f ++ specElem c' f.elem x) := List.map_congr_left (fun x hx => by rw [h x hx])
    simp only [h1, h2]
  | map kk =>
    simp only []
    congr 1
    apply List.map_congr_left
    intro en hen
    have hen' : en ∈ v.elems := (sortEntries_perm kk v.elems).mem_iff.1 hen
    have hvd : en.value.depth ≤ m :=
      Nat.le_trans (Val.depth_value_le en) (Nat.le_trans (Val.depth_elem_le hen') hd)
    simp only [specEntry, specElem_congr hc f.elem hvd]

theorem specEncode_not_msg (S : Schema) (F i : Nat) (v : Val) (h : ∀ s u, v ≠ .msg s u) :
    specEncode S F i v = [] := by
  cases F with
  | zero => rfl
  | succ F =>
    cases v <;> first
      | exact absurd rfl (h _ _)
      | simp [specEncode, specEncodeLvl, Val.isNone, Val.slots, Val.unknown, sortFV]

theorem specEncode_fuel (S : Schema) : ∀ (F1 F2 i : Nat) (v : Val), v.depth ≤ F1 → v.depth ≤ F2 →
    specEncode S F1 i v = specEncode S F2 i v :=
  fuel_stable (specEncode S) (fun _ _ => []) (specEncode_not_msg S) (by
    intro n m i slots u ih
    simp only [specEncode, Val.isNone_msg, Bool.false_eq_true, if_false, specEncodeLvl, Val.slots_msg]
    congr 2
    apply List.map_congr_left
    intro p hp
    rw [sortFV_eq, mem_isort] at hp
    exact specField_congr (fun j x hx => ih j x (Nat.le_trans hx (Val.depth_le_depthList (List.of_mem_zip hp).2)))
      p.1 (Nat.le_refl _))

theorem utf8Elem_scalar_congr (U : Nat → Val → Bool) (k : Kind) {x a : Val} (h : x.getBlob = a.getBlob) :
    utf8Elem U (.scalar k) x = utf8Elem U (.scalar k) a := by
  cases k <;> simp [utf8Elem, h]

theorem utf8Elem_repElem {U : Nat → Val → Bool} {rn : Nat → Val → Val}
    (h : ∀ i v, U i (rn i v) = U i v) (hn : ∀ i v, (rn i v).isNone = v.isNone) (e : Elem) (v : Val) :
    utf8Elem U e (repElem rn e v) = utf8Elem U e v := by
  cases e with
  | scalar k => exact utf8Elem_scalar_congr U k (repScalar_getBlob rn k v)
  | message i =>
    cases hv : v.isNone with
    | true => simp only [repElem, hv, if_true]
    | false => simp only [repElem, hv, Bool.false_eq_true, if_false, utf8Elem, hn, h]

theorem utf8Slot_repSlot {U : Nat → Val → Bool} {rn : Nat → Val → Val}
    (h : ∀ i v, U i (rn i v) = U i v) (hn : ∀ i v, (rn i v).isNone = v.isNone) (f : FieldDesc) (v : Val) :
    utf8Slot U f (repSlot rn f v) = utf8Slot U f v := by
  cases hs : f.shape with
  | singular =>
    rw [repSlot_singular hs]
    simp only [utf8Slot, hs]
    exact utf8Elem_repElem h hn f.elem v
  | repeated p =>
    rw [repSlot_repeated hs]
    simp only [utf8Slot, hs, Val.elems_list, List.all_map]
    exact all_congr_mem (fun x _ => utf8Elem_repElem h hn f.elem x)
  | map kk =>
    rw [repSlot_map hs]
    simp only [utf8Slot, hs, Val.elems_map]
    rw [(sortEntries_perm kk _).all_eq, List.all_map]
    refine all_congr_mem (fun en _ => ?_)
    simp only [Function.comp, normEntry_key, normEntry_value, repScalar_getBlob, utf8Elem_repElem h hn]
  | oneof g =>
    rw [repSlot_oneof hs]
    cases v <;> try rfl
    simp only [utf8Slot, hs]
    exact utf8Elem_repElem h hn f.elem _

theorem utf8OK_repNorm (S : Schema) : ∀ (n i : Nat) (v : Val), utf8OK S n i (repNorm S n i v) = utf8OK S n i v
  | 0, _, _ => rfl
  | n+1, i, v => by
    cases v with
    | msg slots u =>
      rw [repNorm_succ]
      simp only [utf8OK, Val.slots_msg, absSlots]
      rw [zip_zip_map (fun f v => repSlot (repNorm S n) f v), List.all_map]
      exact all_congr_mem (fun p _ => utf8Slot_repSlot (fun j x => utf8OK_repNorm S n j x)
        (fun j x => repNorm_isNone S n j x) p.1 p.2)
    | _ => rfl

/-- C04, C02 and C05 composed; the fuels `depth + 1` that the two machines use are immaterial -/
theorem read_refines_codec (S : Schema) (hS : S.WF = true) (n i : Nat) (s : Val)
    (hs : msgOK S false n i s = true) (hu : utf8OK S n i s = true) (o : ROp) (hc : o.usesCodec = true) :
    SpecReflect.read S i (abs S n i s) o = Reflect.read S i s o := by
  -- the IMPL side, at the fuel the machine uses
  have hd := msgOK_depth_le S n i s hs
  have hs' : msgOK S false (s.depth + 1) i s = true := msgOK_of_depth_le S n _ i s hs (by omega)
  obtain ⟨h1, h2, h3, h4⟩ := marshal_ok hS Reflect.mopts (fun kk es => sortEntries_perm kk es) hs'
  -- the SPEC side
  obtain ⟨hok, henc⟩ := repNorm_ok S n i s hs
  have hd' := msgOK_depth_le S n i _ hok
  have hE : specEncode S ((abs S n i s).depth + 1) i (abs S n i s) = specEncode S (s.depth + 1) i s := by
    unfold abs
    rw [specEncode_fuel S _ n i _ (by omega) hd', henc]
    exact specEncode_fuel S n (s.depth + 1) i s hd (by omega)
  have hU : utf8OK S ((abs S n i s).depth + 1) i (abs S n i s) = true := by
    unfold abs
    rw [utf8OK_fuel S _ n i _ (by omega) hd', utf8OK_repNorm, hu]
  cases o <;> simp only [ROp.usesCodec, Bool.false_eq_true] at hc
  · simp only [SpecReflect.read, Reflect.read, hE, h2, h3]
  · simp only [SpecReflect.read, Reflect.read, SpecReflect.encOf, hU, if_true, hE, h1, h4 rfl]

theorem read_refines_codec_none (S : Schema) (i : Nat) (o : ROp) (hc : o.usesCodec = true) :
    SpecReflect.read S i .none o = Reflect.read S i .none o := by
  cases o <;> simp only [ROp.usesCodec, Bool.false_eq_true] at hc
  · simp only [SpecReflect.read, Reflect.read, PU.implSize_none S _ _ i .none rfl, Val.depth_none, specEncode,
      Val.isNone, if_true, List.length_nil]
  · simp only [SpecReflect.read, Reflect.read, SpecReflect.encOf, implMarshal_none, Val.depth_none, specEncode,
      Val.isNone, if_true, utf8OK, Val.slots, List.zip_nil_right, List.all_nil]

theorem utf8OK_msg_iff {S : Schema} {n i : Nat} {slots : List Val} {u : Bytes} :
    utf8OK S (n+1) i (.msg slots u) = true ↔
      ∀ p ∈ (S.msg i).fields.zip slots, utf8Slot (utf8OK S n) p.1 p.2 = true :=
  List.all_eq_true

theorem utf8Slot_getD {S : Schema} {n i : Nat} {slots : List Val} {u : Bytes} {j : Nat} {f : FieldDesc}
    (hu : utf8OK S (n+1) i (.msg slots u) = true) (hf : (S.msg i).fields[j]? = some f) :
    utf8Slot (utf8OK S n) f (slots.getD j .none) = true :=
  forall_mem_zip_getD (P := fun f v => utf8Slot (utf8OK S n) f v = true) Val.none hf
    (fun _ => utf8Slot_none _ f) (utf8OK_msg_iff.1 hu)

/-- what `size` / `enc` need beyond typing: a well-formed schema (C02) and valid UTF-8 (the reference
    marshaller rejects anything else) -/
def CodecOK (S : Schema) (n i : Nat) (s : Val) : Prop :=
  S.WF = true ∧ utf8OK S n i s = true

theorem CodecOK.down {S : Schema} {n i : Nat} {slots : List Val} {u : Bytes} {j mi : Nat} {f : FieldDesc} {c : Val}
    (h : CodecOK S (n+1) i (.msg slots u)) (hf : (S.msg i).fields[j]? = some f)
    (hc : utf8Slot (utf8OK S n) f (slots.getD j .none) = true → utf8OK S n mi c = true) : CodecOK S n mi c :=
  ⟨h.1, hc (utf8Slot_getD h.2 hf)⟩

end Pulsar
