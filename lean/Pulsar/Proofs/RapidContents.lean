/-
  What the messages of the generated tree hold, as instances of `rp_sp_setFields`: valid UTF-8 in every string
  (`utf8OK`), a declared number in every enum field (`enumsOK`), and unknown-field sets that can be stored
  (`unknownOK`: the generator never writes unknown fields).
-/
import Pulsar.Proofs.RapidScalars
namespace Pulsar.Rapidproto

/-! ### valid UTF-8 -/

def utf8Sp (k : Kind) (v : Val) : Bool := k != .string || utf8Valid v.getBlob

theorem rp_utf8Elem_eq (child : Nat → Val → Bool) (e : Elem) : utf8Elem child e = spElem utf8Sp child e := by
  funext v
  cases e with
  | scalar k => cases k <;> rfl
  | message i => rfl

theorem rp_utf8Slot_eq (child : Nat → Val → Bool) (f : FieldDesc) (v : Val) :
    utf8Slot child f v = spSlot utf8Sp child f v := by
  unfold utf8Slot spSlot
  simp only [rp_utf8Elem_eq, rp_spEntry_eq, utf8Sp]
  cases f.shape <;> first | rfl | (cases v <;> rfl)

theorem rp_utf8OK_eq (S : Schema) : ∀ (n d i : Nat) (v : Val), utf8OK S n i v = spOK utf8Sp mpTrue S n d i v
  | 0, _, _, _ => rfl
  | n+1, d, i, v => by
    have : utf8OK S n = spOK utf8Sp mpTrue S n (d+1) := by funext i v; exact rp_utf8OK_eq S n (d+1) i v
    simp only [utf8OK, spOK, this, rp_utf8Slot_eq, mpTrue, Bool.true_and]

theorem rp_utf8_SpZero : SpZero utf8Sp := by
  intro k
  by_cases hk : k = .string
  · subst hk
    simp [utf8Sp, Kind.isBlob, Val.getBlob, utf8Valid]
  · simp [utf8Sp, hk]

/-- a drawn string is valid by the contract of `String()` (`Gen.inRange`), a mapped one by `MapperOK.utf8` -/
theorem rp_utf8_SpGen (o : GenOpts) (E : List Int)
    (hmap : ∀ w, o.mapper .string = some w → utf8Valid w.getBlob = true) : SpGen Ev.inRange utf8Sp o E := by
  intro k ds
  by_cases hk : k = .string
  · subst hk
    refine Post.genScalar ds (fun w hw => by simp [utf8Sp, hmap w hw]) (fun _ d hin => ?_)
    simpa [utf8Sp, scalarVal, scalarGen, Ev.inRange, Gen.inRange, Val.getBlob] using hin
  · exact (Post.any _).mono (fun v _ => by simp [utf8Sp, hk])

theorem rp_utf8_setFields (S : Schema) (o : GenOpts) (E : List Int)
    (hmap : ∀ w, o.mapper .string = some w → utf8Valid w.getBlob = true) (fuel N depth i : Nat) (v : Val)
    (ds : List Draw) (hu : utf8OK S N i v = true) :
    Post Ev.inRange (setFields S o E fuel depth i v ds) (fun r => utf8OK S N i r.2 = true) := by
  simp only [rp_utf8OK_eq S N depth] at hu ⊢
  exact rp_sp_setFields_scalar (rp_utf8_SpGen o E hmap) rp_utf8_SpZero S N fuel depth i v ds hu

/-! ### declared enum numbers -/

def enumSp (E : List Int) (k : Kind) (v : Val) : Bool := k != .enum || enumDeclared E v

theorem rp_enumElem_eq (E : List Int) (child : Nat → Val → Bool) (e : Elem) :
    enumElem E child e = spElem (enumSp E) child e := by
  funext v
  cases e with
  | scalar k => cases k <;> rfl
  | message i => rfl

theorem rp_enumSlot_eq (E : List Int) (child : Nat → Val → Bool) (f : FieldDesc) (v : Val) :
    enumSlot E child f v = spSlot (enumSp E) child f v := by
  unfold enumSlot spSlot
  simp only [rp_enumElem_eq, rp_spEntry_eq, enumSp]
  cases f.shape <;> first | rfl | (cases v <;> rfl)

theorem rp_enumsOK_eq (S : Schema) (E : List Int) : ∀ (n d i : Nat) (v : Val),
    enumsOK S E n i v = spOK (enumSp E) mpTrue S n d i v
  | 0, _, _, _ => rfl
  | n+1, d, i, v => by
    have : enumsOK S E n = spOK (enumSp E) mpTrue S n (d+1) := by funext i v; exact rp_enumsOK_eq S E n (d+1) i v
    simp only [enumsOK, spOK, this, rp_enumSlot_eq, mpTrue, Bool.true_and]

/-- proto3: the first value of every enum is zero, so `0 ∈ E` for every enum protoc accepts -/
theorem rp_enum_SpZero {E : List Int} (h0 : (0 : Int) ∈ E) : SpZero (enumSp E) := by
  intro k
  by_cases hk : k = .enum
  · subst hk
    simp only [enumSp, Kind.isBlob, enumDeclared, Val.getBits, bne_self_eq_false, Bool.false_or,
      Bool.false_eq_true, if_false, List.contains_eq_mem, List.mem_map, decide_eq_true_eq]
    exact ⟨0, h0, rfl⟩
  · simp [enumSp, hk]

theorem rp_enum_SpGen (o : GenOpts) (E : List Int)
    (hmap : ∀ w, o.mapper .enum = some w → enumDeclared E w = true) : SpGen Ev.inRange (enumSp E) o E := by
  intro k ds
  by_cases hk : k = .enum
  · subst hk
    refine Post.genScalar ds (fun w hw => by simp [enumSp, hmap w hw]) (fun _ d hin => ?_)
    simp [enumSp, scalarVal, scalarGen, Ev.inRange, Gen.inRange, enumDeclared, Val.getBits] at hin ⊢
    refine ⟨genEnum E d.getInt.toNat, ?_, rfl⟩
    unfold genEnum
    have hi : d.getInt.toNat < E.length := by omega
    rw [List.getD_eq_getElem?_getD, List.getElem?_eq_getElem hi]
    exact List.getElem_mem hi
  · exact (Post.any _).mono (fun v _ => by simp [enumSp, hk])

theorem rp_enum_setFields (S : Schema) (o : GenOpts) (E : List Int) (h0 : (0 : Int) ∈ E)
    (hmap : ∀ w, o.mapper .enum = some w → enumDeclared E w = true) (fuel N depth i : Nat)
    (v : Val) (ds : List Draw) (he : enumsOK S E N i v = true) :
    Post Ev.inRange (setFields S o E fuel depth i v ds) (fun r => enumsOK S E N i r.2 = true) := by
  simp only [rp_enumsOK_eq S E N depth] at he ⊢
  exact rp_sp_setFields_scalar (rp_enum_SpGen o E hmap) (rp_enum_SpZero h0) S N fuel depth i v ds he

theorem rp_enumsOK_emptyMsg (S : Schema) {E : List Int} (h0 : (0 : Int) ∈ E) (n i : Nat) :
    enumsOK S E n i (emptyMsg S i) = true := by
  rw [rp_enumsOK_eq S E n 0]
  exact rp_spOK_emptyMsg (rp_enum_SpZero h0) S (fun _ _ => rfl) n 0 i

/-! ### storable unknown-field sets -/

def unkMp (S : Schema) (_ : Nat) (i : Nat) (v : Val) : Bool :=
  unknownRecordsOK (S.msg i).fields v.unknown.length v.unknown

theorem rp_unknownSlot_eq (child : Nat → Val → Bool) (f : FieldDesc) (v : Val) :
    unknownSlot child f v = spSlot spTrue child f v := by
  have : unknownElem child = evElem child := by funext e v; cases e <;> rfl
  rw [← rp_evSlot_eq]
  unfold unknownSlot evSlot
  simp only [this]
  cases f.shape <;> first | rfl | (cases v <;> rfl)

theorem rp_unknownOK_eq (S : Schema) : ∀ (n d i : Nat) (v : Val),
    unknownOK S n i v = spOK spTrue (unkMp S) S n d i v
  | 0, _, _, _ => rfl
  | n+1, d, i, v => by
    have : unknownOK S n = spOK spTrue (unkMp S) S n (d+1) := by funext i v; exact rp_unknownOK_eq S n (d+1) i v
    simp only [unknownOK, spOK, this, rp_unknownSlot_eq, unkMp]

theorem rp_unk_MpOK (S : Schema) : MpOK S (unkMp S) (unkMp S) :=
  ⟨fun _ _ _ h => h, fun _ i => by simp [unkMp, emptyMsg, Val.unknown, unknownRecordsOK],
   fun _ i => by simp [unkMp, Val.unknown, unknownRecordsOK]⟩

theorem rp_unk_MpStep {p : Ev → Bool} (S : Schema) (o : GenOpts) (E : List Int) :
    MpStep p S o E (unkMp S) (unkMp S) := by
  intro fuel depth i v ds hv
  refine (Post.of_all (rp_setFields_out S o E fuel depth i v ds)).mono (fun r h => ?_)
  simp only [unkMp] at hv ⊢
  rw [h.1]
  exact hv

theorem rp_unknown_setFields {p : Ev → Bool} (S : Schema) (o : GenOpts) (E : List Int) (fuel N depth i : Nat)
    (v : Val) (ds : List Draw) (hk : unknownOK S N i v = true) :
    Post p (setFields S o E fuel depth i v ds) (fun r => unknownOK S N i r.2 = true) := by
  simp only [rp_unknownOK_eq S N depth] at hk ⊢
  exact rp_sp_setFields (rp_spTrue_SpGen o E) rp_spTrue_SpZero S (rp_unk_MpOK S) (rp_unk_MpStep S o E)
    N fuel depth i v ds (rp_spPre_of_spOK S (rp_unk_MpOK S) hk)

theorem rp_unknownOK_emptyMsg (S : Schema) (n i : Nat) : unknownOK S n i (emptyMsg S i) = true := by
  rw [rp_unknownOK_eq S n 0]
  exact rp_spOK_emptyMsg rp_spTrue_SpZero S (rp_unk_MpOK S).empty n 0 i

end Pulsar.Rapidproto
