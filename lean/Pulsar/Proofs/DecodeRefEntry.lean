/-
  Pulsar.Proofs.DecodeRefEntry — map entries: `unmarshalMap`'s loop (reference, strict) against
  `unmarshalMapField`'s loop (generated), one record at a time. The generated code allocates a message value
  lazily, the reference starts from `NewValue()`: `VRel` relates the two `mapvalue`s.
-/
import Pulsar.Proofs.DecodeRefStep
namespace Pulsar

/-- agreement of the nested decoders, as far as the record loops need it -/
def ChildAgree (cs ci : Nat → Val → Bytes → Res Val) : Prop :=
  ∀ i into p v, into.isNone = false → p.length < 9223372036854775808 →
    cs i into p = .ok v → ci i into p = .ok v ∧ v.isNone = false

theorem specPayload_impl {α : Type} {X : Bytes → Res α} {r r' : Bytes} {x : α}
    (hl : r.length < 9223372036854775808) (h : specPayload X r = .ok (x, r')) :
    ∃ p, readLenDelim r = .ok (p, r') ∧ X p = .ok x ∧ p.length + r'.length < r.length := by
  obtain ⟨⟨p, r1⟩, hld, h⟩ := Res.bind_eq_ok.1 h
  obtain ⟨x', hx, h⟩ := Res.mapR_eq_ok.1 h
  cases h
  exact ⟨p, specLenDelim_impl hl hld, hx, (specLenDelim_prefix hld).2⟩

/-- relation between the generated code's `mapvalue` variable and protobuf-go's `NewValue()`-initialised
    value: a message value is allocated lazily by the generated code. -/
def VRel (S : Schema) (e : Elem) (vi vs : Val) : Prop :=
  match e with
  | .scalar _ => vi = vs
  | .message mi => (vi = .none ∧ vs = emptyMsg S mi) ∨ (vi = vs ∧ vs.isNone = false)

/-- `p`: what is left of the entry's payload, `t`: what follows the entry -/
theorem entryStep_agree (S : Schema) {cs ci : Nat → Val → Bytes → Res Val} (H : ChildAgree cs ci)
    {kk : Kind} {e : Elem} {p t : Bytes} {k vi vs k' vs' : Val} {r' : Bytes}
    (hl : (p ++ t).length < 9223372036854775808) (hrel : VRel S e vi vs)
    (h : specEntryStep true cs kk e (k, vs) p = .ok ((k', vs'), r')) :
    r'.length < p.length ∧ ∃ vi', VRel S e vi' vs' ∧ ∀ fuel,
      implEntryLoop ci S kk e (fuel + 1) (p ++ t) p.length k vi =
        implEntryLoop ci S kk e fuel (r' ++ t) r'.length k' vi' := by
  obtain ⟨⟨num, wt, r⟩, ht, h⟩ := Res.bind_eq_ok.1 h
  dsimp only at h
  by_cases hnum : num > 536870911
  · rw [if_pos hnum] at h
    cases h
  rw [if_neg hnum] at h
  obtain ⟨wire, hread, hfn, hwt, h1, hlen⟩ := consumeTag_impl (consumeTag_append t ht) (by omega)
  have hrl : r.length < p.length := consumeTag_length ht
  have hlt : (r ++ t).length < 9223372036854775808 := by omega
  -- the generated loop up to the dispatch on the field number
  have start : ∀ fuel, implEntryLoop ci S kk e (fuel + 1) (p ++ t) p.length k vi =
      if num = 1 then
        implReadMapField ci S (.scalar kk) k (r ++ t) >>= fun kr =>
          implEntryLoop ci S kk e fuel kr.2 (p.length - ((p ++ t).length - kr.2.length)) kr.1 vi
      else if num = 2 then
        implReadMapField ci S e vi (r ++ t) >>= fun vr =>
          implEntryLoop ci S kk e fuel vr.2 (p.length - ((p ++ t).length - vr.2.length)) k vr.1
      else skip (p ++ t) >>= fun n =>
        if n > p.length then .err .eof else implEntryLoop ci S kk e fuel ((p ++ t).drop n) (p.length - n) k vi := by
    intro fuel
    rw [implEntryLoop_succ, if_neg (by omega), hread, Res.bind_ok]
    simp only [hfn]
  -- `rem` after a record that left `r'` of the entry
  have rem : ∀ r' : Bytes, r'.length ≤ p.length → p.length - ((p ++ t).length - (r' ++ t).length) = r'.length := by
    intro r' h
    rw [length_append_sub, Nat.sub_sub_self h]
  have scalar : ∀ {kd : Kind} {old v : Val}, specReadScalar kd r = .ok (v, r') →
      r'.length < p.length ∧ implReadMapField ci S (.scalar kd) old (r ++ t) = .ok (v, r' ++ t) := by
    intro kd old v hs
    obtain ⟨hlen', happ⟩ := specReadScalar_prefix hs
    exact ⟨by omega, specReadScalar_impl hlt (happ t)⟩
  have skipped : ∀ {mism : Bool}, (specEntrySkip true mism num wt r).mapFst (fun _ => (k, vs)) = .ok ((k', vs'), r') →
      mism = false ∧ (num ≠ 1 → num ≠ 2 → r'.length < p.length ∧ ∃ vi', VRel S e vi' vs' ∧ ∀ fuel,
        implEntryLoop ci S kk e (fuel + 1) (p ++ t) p.length k vi =
          implEntryLoop ci S kk e fuel (r' ++ t) r'.length k' vi') := by
    intro mism h
    obtain ⟨u, hu, hx⟩ := Res.mapFst_eq_ok.1 h
    cases hx
    obtain ⟨hm, hv⟩ := specEntrySkip_eq_ok hu
    refine ⟨by simpa using hm, fun n1 n2 => ?_⟩
    obtain ⟨hs, hlt', hd⟩ := unknown_record (consumeTag_append t ht) (consumeValue_append t hv) hl
    rw [length_append_sub] at hs hd
    have hlt'' : r'.length < p.length := by
      simp only [List.length_append] at hlt'
      omega
    refine ⟨hlt'', vi, hrel, fun fuel => ?_⟩
    rw [start, if_neg n1, if_neg n2, hs, Res.bind_ok, if_neg (by omega), hd, Nat.sub_sub_self (Nat.le_of_lt hlt'')]
  by_cases hn1 : num = 1
  · -- key record
    rw [if_pos hn1] at h
    by_cases hw : wt = kk.specWireType
    · rw [if_pos hw] at h
      obtain ⟨kv, hs, hx⟩ := Res.mapFst_eq_ok.1 h
      cases hx
      obtain ⟨hlt', hi⟩ := scalar (old := k) hs
      refine ⟨hlt', vi, hrel, fun fuel => ?_⟩
      rw [start, if_pos hn1, hi, Res.bind_ok, rem r' (Nat.le_of_lt hlt')]
    · rw [if_neg hw] at h
      exact absurd (skipped h).1 (by decide)
  rw [if_neg hn1] at h
  by_cases hn2 : num = 2
  · -- value record
    rw [if_pos hn2] at h
    cases e with
    | scalar vk =>
      dsimp only at h
      by_cases hw : wt = vk.specWireType
      · rw [if_pos hw] at h
        obtain ⟨vv, hs, hx⟩ := Res.mapFst_eq_ok.1 h
        cases hx
        obtain ⟨hlt', hi⟩ := scalar (old := vi) hs
        refine ⟨hlt', vs', rfl, fun fuel => ?_⟩
        rw [start, if_neg hn1, if_pos hn2, hi, Res.bind_ok, rem r' (Nat.le_of_lt hlt')]
      · rw [if_neg hw] at h
        exact absurd (skipped h).1 (by decide)
    | message mi =>
      dsimp only at h
      by_cases hw : wt = 2
      · rw [if_pos hw] at h
        obtain ⟨v', hp, hx⟩ := Res.mapFst_eq_ok.1 h
        cases hx
        obtain ⟨_, _, hx, happ⟩ := specPayload_eq_ok hp
        obtain ⟨q, hrd, hc, hq⟩ := specPayload_impl hlt (happ _ _ t hx)
        -- the generated code's target is the reference's: the allocated message, or the one read so far
        have hinto : (Elem.message mi).orEmpty S vi = vs ∧ vs.isNone = false := by
          rcases hrel with ⟨rfl, rfl⟩ | ⟨rfl, hv⟩
          · exact ⟨rfl, rfl⟩
          · simp [Elem.orEmpty_message, hv]
        obtain ⟨hci, hv'⟩ := H mi vs q vs' hinto.2 (by omega) hc
        have hlt' : r'.length < p.length := by
          simp only [List.length_append] at hq
          omega
        refine ⟨hlt', vs', Or.inr ⟨rfl, hv'⟩, fun fuel => ?_⟩
        rw [start, if_neg hn1, if_pos hn2, implReadMapField_message, hrd, Res.bind_ok, hinto.1, hci]
        simp only [Res.mapR_ok, Res.bind_ok, rem r' (Nat.le_of_lt hlt')]
      · rw [if_neg hw] at h
        exact absurd (skipped h).1 (by decide)
  · rw [if_neg hn2] at h
    exact (skipped h).2 hn1 hn2

theorem entry_agree (S : Schema) {cs ci : Nat → Val → Bytes → Res Val} (H : ChildAgree cs ci)
    {kk : Kind} {e : Elem} {fuel : Nat} {p t : Bytes} {k vi vs k' vs' : Val}
    (hl : (p ++ t).length < 9223372036854775808) (hrel : VRel S e vi vs)
    (h : specEntryLoop true cs kk e fuel p k vs = .ok (k', vs')) :
    ∃ vi', implEntryLoop ci S kk e fuel (p ++ t) p.length k vi = .ok (k', vi') ∧ VRel S e vi' vs' := by
  induction fuel generalizing p k vi vs with
  | zero =>
    cases h
    exact ⟨vi, rfl, hrel⟩
  | succ fuel ih =>
    rw [specEntryLoop_succ] at h
    by_cases hp : p = []
    · subst hp
      cases h
      exact ⟨vi, by simp [implEntryLoop], hrel⟩
    · rw [if_neg hp] at h
      obtain ⟨⟨⟨k1, v1⟩, r1⟩, hs, h⟩ := Res.bind_eq_ok.1 h
      obtain ⟨hlt, vi1, hrel1, hstep⟩ := entryStep_agree S H hl hrel hs
      rw [hstep]
      exact ih (by simp only [List.length_append] at hl ⊢; omega) hrel1 h

end Pulsar
