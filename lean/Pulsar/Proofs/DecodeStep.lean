/-
  Pulsar.Proofs.DecodeStep — the generated decoder one step at a time, as equations in `>>=` form, so that
  no proof has to open `implKnownField` or a loop again: a known-field record is `slotStep` (the slot's new
  value from its current one) followed by `storeSlot`, with `SlotRead` listing its successful runs; one
  iteration of the record loop is `implRecord`, and the loop goes on iff input was consumed.
-/
import Pulsar.Proofs.DecodeReaders
import Pulsar.Proofs.Slots
namespace Pulsar

/-! ## the element reader

  `implReadMapField` (written for map entries) is what every field reads one element with. -/

section
variable {S : Schema}
theorem implReadMapField_scalar (c : Nat → Val → Bytes → Res Val) (k : Kind) (old : Val) (rest : Bytes) :
    implReadMapField c S (.scalar k) old rest = implReadScalar k rest := rfl
end

/-- `if x == nil { x = &T{} }`: the message a nested payload is decoded into and, as the last step of
    `implKnownField`'s map branch, the value of an entry whose value record never came -/
def Elem.orEmpty (S : Schema) (e : Elem) (v : Val) : Val :=
  match e with
  | .message mi => if v.isNone then emptyMsg S mi else v
  | .scalar _ => v

theorem Elem.orEmpty_message (S : Schema) (i : Nat) (v : Val) :
    (Elem.message i).orEmpty S v = if v.isNone then emptyMsg S i else v := rfl

theorem Elem.orEmpty_isNone (S : Schema) (i : Nat) (v : Val) : ((Elem.message i).orEmpty S v).isNone = false := by
  rw [Elem.orEmpty_message]
  split
  · rfl
  · rename_i h
    simpa using h

theorem implReadMapField_message (c : Nat → Val → Bytes → Res Val) (S : Schema) (i : Nat) (old : Val) (rest : Bytes) :
    implReadMapField c S (.message i) old rest =
      readLenDelim rest >>= fun pr => (c i ((Elem.message i).orEmpty S old) pr.1).mapR fun v => (v, pr.2) := by
  simp only [implReadMapField, Elem.orEmpty_message]
  rcases readLenDelim rest with ⟨⟨p, r⟩⟩ | e | _
  · simp only [Res.bind_ok]
    cases c i (if old.isNone then emptyMsg S i else old) p <;> rfl
  · rfl
  · rfl

/-! ## a known-field record: `slotStep`, then `storeSlot` -/

/-- the value an element of `f` is decoded into (`into` in `implKnownField`, the element reader's `old`); every
    element of a repeated field is fresh -/
def FieldDesc.target (f : FieldDesc) (cur : Val) : Val :=
  match f.shape with
  | .singular => cur
  | .oneof _ => (match cur with | .one x => x | _ => .none)
  | _ => .none

/-- what `implKnownField` writes to the slot once it has read the element `v` -/
def FieldDesc.put (f : FieldDesc) (cur v : Val) : Val :=
  match f.shape with
  | .oneof _ => .one v
  | .repeated _ => .list true (cur.elems ++ [v])
  | _ => v

/-- `nonNil` of `implKnownField`'s packed branch: is the list non-nil after the run has appended `vs`? -/
def packedNonNil (cur : Val) (vs : List Val) : Bool :=
  match cur with | .list nn _ => nn || !vs.isEmpty | _ => !vs.isEmpty

/-- `implKnownField` seen from the slot: its new value (from the current value `cur`) after one record with
    wire type `wt` -/
def slotStep (S : Schema) (c : Nat → Val → Bytes → Res Val) (f : FieldDesc) (wt : Nat) (cur : Val) (rest : Bytes) :
    Res (Val × Bytes) :=
  match f.shape with
  | .map kk =>
    if wt = 2 then readLen rest >>= fun nr =>
      (implEntryLoop c S kk f.elem nr.1 (nr.2.take nr.1) nr.1 (Elem.zeroVar (.scalar kk)) f.elem.zeroVar).mapR
        fun kv => (.map true (mapPut (kbeqOf kk) cur.elems kv.1 (f.elem.orEmpty S kv.2)), nr.2.drop nr.1)
    else .err .wrongWireType
  | shape =>
    if wt = f.elem.wireType then (implReadMapField c S f.elem (f.target cur) rest).mapFst (f.put cur)
    else match shape, f.elem with
      | .repeated _, .scalar k =>
        if wt = 2 then readLen rest >>= fun nr =>
          (implPackedLoop k nr.1 nr.2 nr.1 []).mapFst fun vs => .list (packedNonNil cur vs) (cur.elems ++ vs)
        else .err .wrongWireType
      | _, _ => .err .wrongWireType

/-- `implKnownField`'s write of the slot (a oneof member first clears its group) -/
def storeSlot (fs : List FieldDesc) (f : FieldDesc) (j : Nat) (m v : Val) : Val :=
  match f.shape with
  | .oneof g => (Val.msg (clearGroup fs g m.slots) m.unknown).setSlot j v
  | _ => m.setSlot j v

theorem setSlot_isNone (m : Val) (j : Nat) (v : Val) : (m.setSlot j v).isNone = m.isNone := by
  cases m <;> rfl

theorem storeSlot_isNone {fs : List FieldDesc} {f : FieldDesc} {j : Nat} {m v : Val} (hm : m.isNone = false) :
    (storeSlot fs f j m v).isNone = false := by
  unfold storeSlot
  split
  · rw [setSlot_isNone]
    rfl
  · rw [setSlot_isNone]
    exact hm

theorem Val.unknown_setSlot (slots : List Val) (u : Bytes) (j : Nat) (v : Val) :
    ((Val.msg slots u).setSlot j v).unknown = u := rfl

theorem storeSlot_unknown (fs : List FieldDesc) (f : FieldDesc) (j : Nat) (m v : Val) :
    (storeSlot fs f j m v).unknown = m.unknown := by
  unfold storeSlot
  split
  · rfl
  · cases m <;> rfl

theorem implKnownField_eq (S : Schema) (fs : List FieldDesc) (c : Nat → Val → Bytes → Res Val)
    (j : Nat) (f : FieldDesc) (wt : Nat) (m : Val) (rest : Bytes) :
    implKnownField S fs c j f wt m rest = (slotStep S c f wt (m.slot j) rest).mapFst (storeSlot fs f j m) := by
  -- the model tests `wt != w`
  have bne : ∀ (w : Nat) (x y : Res (Val × Bytes)), (if (wt != w) = true then x else y) = if wt = w then y else x := by
    intro w x y
    by_cases hw : wt = w
    · simp [hw]
    · simp [hw]
  -- unfolding after `f` is taken apart, and `by_cases` instead of `split`: much cheaper on these goals
  obtain ⟨num, elem, shape⟩ := f
  cases shape with
  | singular =>
    cases elem with
    | scalar k =>
      simp only [implKnownField, slotStep, implReadMapField_scalar, Elem.wireType, FieldDesc.target, bne]
      by_cases hw : wt = Extracted.wireType k
      · simp only [hw, if_true]
        rcases implReadScalar k rest with ⟨⟨v, r⟩⟩ | e | _ <;> rfl
      · simp only [hw, if_false]
        rfl
    | message i =>
      simp only [implKnownField, slotStep, implReadMapField_message, Elem.orEmpty_message, Elem.wireType,
        Extracted.messageWireType, FieldDesc.target, bne]
      by_cases hw : wt = 2
      · simp only [hw, if_true]
        rcases readLenDelim rest with ⟨⟨p, r⟩⟩ | e | _
        · simp only [Res.bind_ok]
          cases c i (if (m.slot j).isNone then emptyMsg S i else m.slot j) p <;> rfl
        · rfl
        · rfl
      · simp only [hw, if_false]
        rfl
  | oneof g =>
    cases elem with
    | scalar k =>
      simp only [implKnownField, slotStep, implReadMapField_scalar, Elem.wireType, FieldDesc.target, bne]
      by_cases hw : wt = Extracted.wireType k
      · simp only [hw, if_true]
        rcases implReadScalar k rest with ⟨⟨v, r⟩⟩ | e | _ <;> rfl
      · simp only [hw, if_false]
        rfl
    | message i =>
      simp only [implKnownField, slotStep, implReadMapField_message, Elem.orEmpty_message, Elem.wireType,
        Extracted.messageWireType, FieldDesc.target, bne]
      by_cases hw : wt = 2
      · simp only [hw, if_true]
        rcases readLenDelim rest with ⟨⟨p, r⟩⟩ | e | _
        · simp only [Res.bind_ok]
          -- the member's own message if it is the active one, else a fresh one: `target` says the same
          generalize m.slot j = cur
          cases cur <;> simp only [Val.isNone, ↓reduceIte] <;> split <;> rename_i h <;> rw [h] <;> rfl
        · rfl
        · rfl
      · simp only [hw, if_false]
        rfl
  | repeated pk =>
    cases elem with
    | scalar k =>
      simp only [implKnownField, slotStep, implReadMapField_scalar, Elem.wireType, FieldDesc.target, packedNonNil,
        readLen, bne]
      by_cases hw : wt = Extracted.wireType k
      · -- one element, whichever of the model's two layouts (`wireType k` is 2 or not) applies
        subst hw
        simp only [if_true]
        by_cases h2 : (Extracted.wireType k != 2) = true
        · rw [if_pos h2]
          rcases implReadScalar k rest with ⟨⟨v, r⟩⟩ | e | _ <;> rfl
        · rw [if_neg h2, if_pos (by simpa using h2)]
          rcases implReadScalar k rest with ⟨⟨v, r⟩⟩ | e | _ <;> rfl
      · simp only [hw, if_false]
        by_cases h2 : wt = 2
        · subst h2
          have hk : (Extracted.wireType k != 2) = true := by simpa using Ne.symm hw
          simp only [hk, if_true]
          rcases readVarint rest with ⟨⟨n, r⟩⟩ | e | _
          · simp only [Res.bind_ok]
            by_cases h3 : n ≥ 9223372036854775808
            · simp only [h3, if_true]
              rfl
            · simp only [h3, if_false]
              by_cases h4 : n > r.length
              · simp only [h4, if_true]
                rfl
              · simp only [h4, if_false, Res.bind_ok]
                rcases implPackedLoop k n r n [] with ⟨⟨vs, r'⟩⟩ | e | _ <;> rfl
          · rfl
          · rfl
        · simp only [h2, if_false, ite_self]
          rfl
    | message i =>
      simp only [implKnownField, slotStep, implReadMapField_message, Elem.orEmpty_message, Elem.wireType,
        Extracted.messageWireType, FieldDesc.target, bne]
      by_cases hw : wt = 2
      · simp only [hw, if_true, Val.isNone]
        rcases readLenDelim rest with ⟨⟨p, r⟩⟩ | e | _
        · simp only [Res.bind_ok]
          cases c i (emptyMsg S i) p <;> rfl
        · rfl
        · rfl
      · simp only [hw, if_false]
        rfl
  | map kk =>
    simp only [implKnownField, slotStep, readLen, bne]
    by_cases hw : wt = 2
    · simp only [hw, if_true]
      rcases readVarint rest with ⟨⟨n, r⟩⟩ | e | _
      · simp only [Res.bind_ok]
        by_cases h3 : n ≥ 9223372036854775808
        · simp only [h3, if_true]
          rfl
        · simp only [h3, if_false]
          by_cases h4 : n > r.length
          · simp only [h4, if_true]
            rfl
          · simp only [h4, if_false, Res.bind_ok]
            rcases implEntryLoop c S kk elem n (r.take n) n (Elem.zeroVar (.scalar kk)) elem.zeroVar
              with ⟨⟨k, v⟩⟩ | e | _
            · cases elem <;> rfl
            · rfl
            · rfl
      · rfl
      · rfl
    · simp only [hw, if_false]
      rfl

/-- the successful runs of `slotStep`, by what was read -/
inductive SlotRead (S : Schema) (c : Nat → Val → Bytes → Res Val) (f : FieldDesc) (cur : Val) (rest : Bytes) :
    Val → Bytes → Prop
  | elem {v r} (hsh : ∀ kk, f.shape ≠ .map kk)
      (hr : implReadMapField c S f.elem (f.target cur) rest = .ok (v, r)) : SlotRead S c f cur rest (f.put cur v) r
  | packed {pk k n r vs r'} (hsh : f.shape = .repeated pk) (hel : f.elem = .scalar k)
      (hn : readLen rest = .ok (n, r)) (hp : implPackedLoop k n r n [] = .ok (vs, r')) :
      SlotRead S c f cur rest (.list (packedNonNil cur vs) (cur.elems ++ vs)) r'
  | entry {kk n r k v} (hsh : f.shape = .map kk) (hn : readLen rest = .ok (n, r))
      (he : implEntryLoop c S kk f.elem n (r.take n) n (Elem.zeroVar (.scalar kk)) f.elem.zeroVar = .ok (k, v)) :
      SlotRead S c f cur rest (.map true (mapPut (kbeqOf kk) cur.elems k (f.elem.orEmpty S v))) (r.drop n)

theorem slotStep_eq_ok {S : Schema} {c : Nat → Val → Bytes → Res Val} {f : FieldDesc} {wt : Nat} {cur : Val}
    {rest : Bytes} {v : Val} {r : Bytes} (h : slotStep S c f wt cur rest = .ok (v, r)) : SlotRead S c f cur rest v r := by
  unfold slotStep at h
  split at h
  · rename_i kk hsh
    split at h
    · obtain ⟨⟨n, r0⟩, hn, h⟩ := Res.bind_eq_ok.1 h
      obtain ⟨⟨k, v0⟩, he, h⟩ := Res.mapR_eq_ok.1 h
      cases h
      exact .entry hsh hn he
    · cases h
  · rename_i hsh
    split at h
    · obtain ⟨v0, hr, rfl⟩ := Res.mapFst_eq_ok.1 h
      exact .elem hsh hr
    · split at h
      · rename_i pk k hsh hel
        split at h
        · obtain ⟨⟨n, r0⟩, hn, h⟩ := Res.bind_eq_ok.1 h
          obtain ⟨vs, hp, rfl⟩ := Res.mapFst_eq_ok.1 h
          exact .packed hsh hel hn hp
        · cases h
      · cases h

theorem implKnownField_eq_ok {S : Schema} {fs : List FieldDesc} {c : Nat → Val → Bytes → Res Val} {j : Nat}
    {f : FieldDesc} {wt : Nat} {m : Val} {rest : Bytes} {m' : Val} {r' : Bytes}
    (h : implKnownField S fs c j f wt m rest = .ok (m', r')) :
    ∃ v, SlotRead S c f (m.slot j) rest v r' ∧ m' = storeSlot fs f j m v := by
  rw [implKnownField_eq] at h
  obtain ⟨v, hs, rfl⟩ := Res.mapFst_eq_ok.1 h
  exact ⟨v, slotStep_eq_ok hs, rfl⟩

/-! ## the loops, one iteration at a time -/

theorem implPackedLoop_succ (k : Kind) (fuel : Nat) (rest : Bytes) (rem : Nat) (acc : List Val) :
    implPackedLoop k (fuel + 1) rest rem acc =
      if rem = 0 then .ok (acc, rest)
      else implReadScalar k rest >>= fun vr =>
        implPackedLoop k fuel vr.2 (rem - (rest.length - vr.2.length)) (acc ++ [vr.1]) := by
  rw [implPackedLoop]
  split
  · rfl
  · rcases implReadScalar k rest with ⟨⟨v, r⟩⟩ | e | _ <;> rfl

theorem implEntryLoop_succ (c : Nat → Val → Bytes → Res Val) (S : Schema) (kk : Kind) (e : Elem)
    (fuel : Nat) (rest : Bytes) (rem : Nat) (k v : Val) :
    implEntryLoop c S kk e (fuel + 1) rest rem k v =
      if rem = 0 then .ok (k, v)
      else readVarint rest >>= fun wr =>
        if wr.1 / 8 % 4294967296 = 1 then
          implReadMapField c S (.scalar kk) k wr.2 >>= fun kr =>
            implEntryLoop c S kk e fuel kr.2 (rem - (rest.length - kr.2.length)) kr.1 v
        else if wr.1 / 8 % 4294967296 = 2 then
          implReadMapField c S e v wr.2 >>= fun vr =>
            implEntryLoop c S kk e fuel vr.2 (rem - (rest.length - vr.2.length)) k vr.1
        else skip rest >>= fun n =>
          if n > rem then .err .eof else implEntryLoop c S kk e fuel (rest.drop n) (rem - n) k v := by
  rw [implEntryLoop]
  refine ite_congr rfl (fun _ => rfl) fun _ => ?_
  rcases readVarint rest with ⟨⟨wire, r⟩⟩ | e | _
  · refine ite_congr rfl (fun _ => ?_) fun _ => ite_congr rfl (fun _ => ?_) fun _ => ?_
    · rcases implReadMapField c S (.scalar kk) k r with ⟨⟨k', r'⟩⟩ | e | _ <;> rfl
    · rcases implReadMapField c S e v r with ⟨⟨v', r'⟩⟩ | e | _ <;> rfl
    · cases skip rest <;> rfl
  · rfl
  · rfl

/-- one iteration of `implUnmarshalLoop` without the recursive call -/
def implRecord (S : Schema) (i : Nat) (o : UOpts) (c : Nat → Val → Bytes → Res Val) (m : Val) (rest : Bytes) :
    Res (Val × Bytes) :=
  readVarint rest >>= fun wr =>
    if wr.1 % 8 = 4 then .err .endGroup
    else if wr.1 / 8 % 4294967296 = 0 ∨ wr.1 / 8 % 4294967296 ≥ 2147483648 then .err .illegalTag
    else match findField (S.msg i).fields (wr.1 / 8 % 4294967296) with
      | some jf => implKnownField S (S.msg i).fields c jf.1 jf.2 (wr.1 % 8) m wr.2
      | none => skip rest >>= fun n =>
        if n > rest.length then .err .eof
        else .ok (if o.discard then m else Val.msg m.slots (m.unknown ++ rest.take n), rest.drop n)

theorem implUnmarshalLoop_succ (S : Schema) (i : Nat) (o : UOpts) (c : Nat → Val → Bytes → Res Val)
    (fuel : Nat) (m : Val) (rest : Bytes) :
    implUnmarshalLoop S i o c (fuel + 1) m rest =
      if rest = [] then .ok m
      else implRecord S i o c m rest >>= fun mr =>
        if mr.2.length < rest.length then implUnmarshalLoop S i o c fuel mr.1 mr.2 else .ok mr.1 := by
  rw [implUnmarshalLoop, implRecord]
  refine ite_congr rfl (fun _ => rfl) fun hne => ?_
  rcases readVarint rest with ⟨⟨wire, r⟩⟩ | e | _
  · simp only [Res.bind_ok]
    by_cases h4 : wire % 8 = 4
    · rw [if_pos h4, if_pos h4]
      rfl
    rw [if_neg h4, if_neg h4]
    by_cases hn : wire / 8 % 4294967296 = 0 ∨ wire / 8 % 4294967296 ≥ 2147483648
    · rw [if_pos hn, if_pos hn]
      rfl
    rw [if_neg hn, if_neg hn]
    rcases findField (S.msg i).fields (wire / 8 % 4294967296) with _ | ⟨j, f⟩
    · dsimp only
      rcases skip rest with n | e | _
      · dsimp only [Res.bind_ok]
        by_cases hn : n > rest.length
        · rw [if_pos hn, if_pos hn]
          rfl
        rw [if_neg hn, if_neg hn, sliceTo_of_le (by omega)]
        have hl : 0 < rest.length := List.length_pos_iff.2 hne
        dsimp only [Res.bind_ok]
        generalize (if o.discard = true then m else Val.msg m.slots (m.unknown ++ rest.take n)) = m'
        -- the model stops on `n = 0`; here: on "no input consumed"
        by_cases h0 : n = 0
        · rw [if_pos h0, if_neg (by subst h0; exact Nat.lt_irrefl _)]
        · rw [if_neg h0, if_pos (by simp only [List.length_drop]; omega)]
      · rfl
      · rfl
    · dsimp only
      rcases implKnownField S (S.msg i).fields c j f (wire % 8) m r with ⟨⟨m', r'⟩⟩ | e | _ <;> rfl
  · rfl
  · rfl

theorem implRecord_of_tag {S : Schema} {i : Nat} {o : UOpts} {c : Nat → Val → Bytes → Res Val} {m : Val}
    {rest r : Bytes} {wire : Nat} (hv : readVarint rest = .ok (wire, r)) (hwt : wire % 8 ≠ 4)
    (hnum : wire / 8 % 4294967296 ≠ 0 ∧ wire / 8 % 4294967296 < 2147483648) :
    implRecord S i o c m rest =
      match findField (S.msg i).fields (wire / 8 % 4294967296) with
      | some jf => implKnownField S (S.msg i).fields c jf.1 jf.2 (wire % 8) m r
      | none => skip rest >>= fun n =>
        if n > rest.length then .err .eof
        else .ok (if o.discard then m else Val.msg m.slots (m.unknown ++ rest.take n), rest.drop n) := by
  unfold implRecord
  rw [hv, Res.bind_ok]
  dsimp only
  rw [if_neg hwt, if_neg (by omega)]

theorem implRecord_eq_ok {S : Schema} {i : Nat} {o : UOpts} {c : Nat → Val → Bytes → Res Val} {m : Val} {rest : Bytes}
    {m' : Val} {r' : Bytes} (h : implRecord S i o c m rest = .ok (m', r')) :
    (∃ wire r j f v, readVarint rest = .ok (wire, r) ∧ (S.msg i).fields[j]? = some f ∧
        SlotRead S c f (m.slot j) r v r' ∧ m' = storeSlot (S.msg i).fields f j m v) ∨
    (∃ n, skip rest = .ok n ∧ n ≤ rest.length ∧ r' = rest.drop n ∧
        m' = if o.discard then m else Val.msg m.slots (m.unknown ++ rest.take n)) := by
  obtain ⟨⟨wire, r⟩, hv, h⟩ := Res.bind_eq_ok.1 h
  dsimp only at h
  by_cases h4 : wire % 8 = 4
  · rw [if_pos h4] at h
    cases h
  rw [if_neg h4] at h
  by_cases ht : wire / 8 % 4294967296 = 0 ∨ wire / 8 % 4294967296 ≥ 2147483648
  · rw [if_pos ht] at h
    cases h
  rw [if_neg ht] at h
  cases hf : findField (S.msg i).fields (wire / 8 % 4294967296) with
  | some jf =>
    rw [hf] at h
    obtain ⟨v, hs, hm'⟩ := implKnownField_eq_ok h
    exact Or.inl ⟨wire, r, jf.1, jf.2, v, hv, findField_getElem? hf, hs, hm'⟩
  | none =>
    rw [hf] at h
    obtain ⟨n, hs, h⟩ := Res.bind_eq_ok.1 h
    by_cases hn : n > rest.length
    · rw [if_pos hn] at h
      cases h
    · rw [if_neg hn] at h
      cases h
      exact Or.inr ⟨n, hs, Nat.le_of_not_gt hn, rfl, rfl⟩

/-! ## every step consumes input -/

theorem implReadMapField_length {c : Nat → Val → Bytes → Res Val} {S : Schema} {e : Elem} {old : Val} {rest : Bytes}
    {v : Val} {r : Bytes} (h : implReadMapField c S e old rest = .ok (v, r)) : r.length < rest.length := by
  cases e with
  | scalar k => exact implReadScalar_length h
  | message i =>
    rw [implReadMapField_message, Res.bind_eq_ok] at h
    obtain ⟨⟨p, r0⟩, hr, h⟩ := h
    obtain ⟨_, _, h⟩ := Res.mapR_eq_ok.1 h
    cases h
    exact Nat.lt_of_le_of_lt (Nat.le_add_left _ _) (readLenDelim_length hr)

theorem implPackedLoop_consumed {k : Kind} {fuel : Nat} {rest : Bytes} {rem : Nat} {acc vs : List Val} {r : Bytes}
    (hf : rem ≤ fuel) (h : implPackedLoop k fuel rest rem acc = .ok (vs, r)) : r.length + rem ≤ rest.length := by
  induction fuel generalizing rest rem acc with
  | zero =>
    cases h
    omega
  | succ fuel ih =>
    rw [implPackedLoop_succ] at h
    by_cases h0 : rem = 0
    · rw [if_pos h0] at h
      cases h
      omega
    · rw [if_neg h0] at h
      obtain ⟨⟨v, r0⟩, hs, h⟩ := Res.bind_eq_ok.1 h
      have h1 := implReadScalar_length hs
      have h2 := ih (by dsimp only; omega) h
      dsimp only at h2
      omega

theorem SlotRead.length {c : Nat → Val → Bytes → Res Val} {S : Schema} {f : FieldDesc} {cur : Val}
    {rest : Bytes} {v : Val} {r : Bytes} (h : SlotRead S c f cur rest v r) : r.length < rest.length := by
  cases h with
  | elem _ hr => exact implReadMapField_length hr
  | packed _ _ hn hp =>
    have := readLen_eq_ok hn
    have := implPackedLoop_consumed (Nat.le_refl _) hp
    omega
  | entry _ hn _ =>
    have := readLen_eq_ok hn
    simp only [List.length_drop]
    omega

theorem implRecord_length {S : Schema} {i : Nat} {o : UOpts} {c : Nat → Val → Bytes → Res Val} {m : Val} {rest : Bytes}
    {m' : Val} {r' : Bytes} (h : implRecord S i o c m rest = .ok (m', r')) : r'.length < rest.length := by
  rcases implRecord_eq_ok h with ⟨wire, r, j, f, v, hv, _, hs, _⟩ | ⟨n, hs, hn, rfl, _⟩
  · exact Nat.lt_trans hs.length (readVarint_length hv)
  · have := skip_progress rest n hs
    simp only [List.length_drop]
    omega

/-! ## invariants -/

theorem implUnmarshalLoop_inv {S : Schema} {i : Nat} {o : UOpts} {c : Nat → Val → Bytes → Res Val} {P : Val → Prop}
    (hk : ∀ {m j f r v r'}, P m → (S.msg i).fields[j]? = some f →
      SlotRead S c f (m.slot j) r v r' → P (storeSlot (S.msg i).fields f j m v))
    (hu : ∀ {m} raw, P m → P (Val.msg m.slots (m.unknown ++ raw))) {fuel : Nat} {m : Val} {rest : Bytes} {v : Val}
    (hm : P m)
    (h : implUnmarshalLoop S i o c fuel m rest = .ok v) : P v := by
  induction fuel generalizing m rest with
  | zero =>
    cases h
    exact hm
  | succ fuel ih =>
    rw [implUnmarshalLoop_succ] at h
    split at h
    · cases h
      exact hm
    · obtain ⟨⟨m', r'⟩, hr, h⟩ := Res.bind_eq_ok.1 h
      have hm' : P m' := by
        rcases implRecord_eq_ok hr with ⟨wire, r, j, f, v, _, hf, hs, rfl⟩ | ⟨n, _, _, _, rfl⟩
        · exact hk hm hf hs
        · split
          · exact hm
          · exact hu _ hm
      split at h
      · exact ih hm' h
      · cases h
        exact hm'

theorem implEntryLoop_inv {c : Nat → Val → Bytes → Res Val} {S : Schema} {kk : Kind} {e : Elem} {P : Val → Val → Prop}
    (hk : ∀ {k v r k' r'}, P k v → implReadScalar kk r = .ok (k', r') → P k' v)
    (hv : ∀ {k v r v' r'}, P k v → implReadMapField c S e v r = .ok (v', r') → P k v')
    {fuel : Nat} {rest : Bytes} {rem : Nat} {k v k' v' : Val} (hp : P k v)
    (h : implEntryLoop c S kk e fuel rest rem k v = .ok (k', v')) : P k' v' := by
  induction fuel generalizing rest rem k v with
  | zero =>
    cases h
    exact hp
  | succ fuel ih =>
    rw [implEntryLoop_succ] at h
    by_cases h0 : rem = 0
    · rw [if_pos h0] at h
      cases h
      exact hp
    rw [if_neg h0] at h
    obtain ⟨⟨wire, r⟩, _, h⟩ := Res.bind_eq_ok.1 h
    dsimp only at h
    by_cases h1 : wire / 8 % 4294967296 = 1
    · rw [if_pos h1] at h
      obtain ⟨⟨k1, r1⟩, hr, h⟩ := Res.bind_eq_ok.1 h
      exact ih (hk hp hr) h
    rw [if_neg h1] at h
    by_cases h2 : wire / 8 % 4294967296 = 2
    · rw [if_pos h2] at h
      obtain ⟨⟨v1, r1⟩, hr, h⟩ := Res.bind_eq_ok.1 h
      exact ih (hv hp hr) h
    rw [if_neg h2] at h
    obtain ⟨n, _, h⟩ := Res.bind_eq_ok.1 h
    by_cases hn : n > rem
    · rw [if_pos hn] at h
      cases h
    · rw [if_neg hn] at h
      exact ih hp h

theorem implPackedLoop_mem {k : Kind} {fuel : Nat} {rest : Bytes} {rem : Nat} {acc vs : List Val} {r : Bytes}
    (h : implPackedLoop k fuel rest rem acc = .ok (vs, r)) :
    ∀ x ∈ vs, x ∈ acc ∨ ∃ rest' r', implReadScalar k rest' = .ok (x, r') := by
  induction fuel generalizing rest rem acc with
  | zero =>
    intro x hx
    cases h
    exact Or.inl hx
  | succ fuel ih =>
    intro x hx
    rw [implPackedLoop_succ] at h
    split at h
    · cases h
      exact Or.inl hx
    · obtain ⟨⟨v, r0⟩, hs, h⟩ := Res.bind_eq_ok.1 h
      rcases ih h x hx with h1 | h1
      · rcases List.mem_append.1 h1 with h2 | h2
        · exact Or.inl h2
        · cases List.mem_singleton.1 h2
          exact Or.inr ⟨_, _, hs⟩
      · exact Or.inr h1

/-! ## the closure -/

section
variable {S : Schema} {o : UOpts} {fuel : Nat} {d : Int} {i : Nat} {into : Val} {bs : Bytes}

theorem implUnmarshalClosure_succ :
    implUnmarshalClosure S o (fuel + 1) d i into bs =
      if into.isNone then .ok into
      else if d < 0 then .err .depth
      else implUnmarshalLoop S i o (implUnmarshalClosure S o fuel (nestedLimit d)) bs.length into bs := by
  rw [implUnmarshalClosure]

theorem implUnmarshalClosure_succ_eq_ok {v : Val} (h : implUnmarshalClosure S o (fuel + 1) d i into bs = .ok v) :
    (into.isNone = true ∧ v = into) ∨
    (into.isNone = false ∧ ¬ d < 0 ∧
      implUnmarshalLoop S i o (implUnmarshalClosure S o fuel (nestedLimit d)) bs.length into bs = .ok v) := by
  rw [implUnmarshalClosure_succ] at h
  split at h
  · cases h
    exact Or.inl ⟨‹_›, rfl⟩
  · split at h
    · cases h
    · exact Or.inr ⟨by simpa using ‹¬ into.isNone = true›, ‹_›, h⟩

end

theorem implUnmarshalClosure_none (S : Schema) (o : UOpts) (fuel : Nat) (d : Int) (i : Nat) (into : Val) (bs : Bytes)
    (v : Val) (hn : into.isNone = true) (h : implUnmarshalClosure S o fuel d i into bs = .ok v) : v = into := by
  cases fuel with
  | zero => simp only [implUnmarshalClosure, Res.ok.injEq] at h; exact h.symm
  | succ fuel => simp only [implUnmarshalClosure_succ, hn, if_true, Res.ok.injEq] at h; exact h.symm

/-- a budget of 0 stands for the default 10000, a budget of 1 hands down the exhausted budget −1 -/
theorem nestedLimit_of_two_le {d : Int} (h : 2 ≤ d) : nestedLimit d = d - 1 := by
  unfold nestedLimit
  simp only []
  rw [if_neg (by omega), if_neg (by omega)]

end Pulsar
