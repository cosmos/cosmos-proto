/-
  Pulsar.Proofs.GoSrcTimepb — the functions of support/timepb as translated from the Go source are the models of
  Pulsar/Timepb.lean, nil arguments included (see Pulsar/Proofs/GoSrcBase.lean).
-/
import Pulsar.ExtractedFns
import Pulsar.Proofs.GoSrcBase
import Pulsar.Proofs.Timepb
namespace Pulsar

namespace Timepb

theorem src_IsZero (t : Option SN) : Xf.timepb_IsZero t = .ok t.isNone := by
  simp [Xf.timepb_IsZero]

/-- every Go value of the two message types: seconds an int64, nanos an int32 -/
def InR (x : Option SN) : Prop := ∀ v, x = some v → InRange v

theorem inR_some {t : SN} (h : InRange t) : InR (some t) := fun v hv => by cases hv; exact h

theorem inR_none : InR none := fun v hv => by cases hv

/-- `wrap64_eq` / `wrap32_eq` rewrite nothing while the source compares the fields directly (the linter then calls them
    unused); they are what closes the goal when the source computes with the fields first, as in
    `diff := int64(t1.Nanos) - int64(t2.Nanos)`: the translation wraps every arithmetic result. The same holds for
    `src_DurationIsNegative`. -/
theorem src_Compare (a b : Option SN) (ha : InR a) (hb : InR b) : Xf.timepb_Compare a b = compareOpt a b := by
  cases a with
  | none => cases b <;> simp [Xf.timepb_Compare, compareOpt]
  | some x =>
    cases b with
    | none => simp [Xf.timepb_Compare, compareOpt]
    | some y =>
      have hx := ha x rfl
      have hy := hb y rfl
      simp only [InRange] at hx hy
      simp [Xf.timepb_Compare, compareOpt, compare, wrap64_eq, wrap32_eq]
      go_cases

theorem src_DurationIsNegative (d : SN) (hd : InRange d) :
    Xf.timepb_DurationIsNegative (some d) = .ok (durationIsNegative d) := by
  simp only [InRange] at hd
  simp [Xf.timepb_DurationIsNegative, durationIsNegative, wrap64_eq, wrap32_eq]
  go_cases

/-- by exhaustion over the three values of `compare` and the flag, however the source combines them
    (`if negative { if cmp < 0 … } }`, `negative && cmp < 0`, `cmp * direction > 0`) -/
theorem src_overflowPanic (t1 t2 : SN) (h1 : InRange t1) (h2 : InRange t2) (neg : Bool) :
    Xf.timepb_overflowPanic (some t1) (some t2) neg = if overflowPanics t1 t2 neg then .panic else .ok () := by
  have e := src_Compare (some t1) (some t2) (inR_some h1) (inR_some h2)
  simp only [Xf.timepb_overflowPanic, e, compareOpt, overflowPanics]
  rcases compare_cases t1 t2 with ⟨h, _⟩ | ⟨h, _⟩ | ⟨h, _⟩ <;> simp only [h] <;> cases neg <;> decide

theorem inRange_wrapped (a b : Int) : InRange ⟨wrap64 a, wrap32 b⟩ :=
  ⟨wrap64_lb a, wrap64_ub a, wrap32_lb b, wrap32_ub b⟩

theorem src_Add (t : Option SN) (d : SN) (ht : InR t) (hd : InRange d) : Xf.timepb_Add t (some d) = add t d := by
  cases t with
  | none => simp [Xf.timepb_Add, add]
  | some t =>
    have hpanic : ∀ (a b : Int) (neg : Bool), Xf.timepb_overflowPanic (some t) (some ⟨wrap64 a, wrap32 b⟩) neg =
        if overflowPanics t ⟨wrap64 a, wrap32 b⟩ neg then .panic else .ok () :=
      fun a b neg => src_overflowPanic t _ (ht t rfl) (inRange_wrapped a b) neg
    rw [add_some, rawSum]
    simp only [Xf.timepb_Add, src_DurationIsNegative d hd, second]
    by_cases h0 : d.sec = 0 ∧ d.nanos = 0
    · simp [h0]
    · -- The model's own tests (carry up, borrow, neither) decide which arm of the translated text runs. The idem lemmas
      -- are for a source that passes an already wrapped sum through another operation (`seconds + int64(carry)` with
      -- `carry = 0`): they are unused while the source adds the carry only in the arms that have one.
      have hcarry : (wrap32 (t.nanos + d.nanos) ≥ 1000000000 ∧ ¬ wrap32 (t.nanos + d.nanos) < 0) ∨
          (¬ wrap32 (t.nanos + d.nanos) ≥ 1000000000 ∧ wrap32 (t.nanos + d.nanos) < 0) ∨
          (¬ wrap32 (t.nanos + d.nanos) ≥ 1000000000 ∧ ¬ wrap32 (t.nanos + d.nanos) < 0) := by omega
      rcases hcarry with ⟨h1, h2⟩ | ⟨h1, h2⟩ | ⟨h1, h2⟩ <;> simp [h0, h1, h2, hpanic, wrap64_idem, wrap32_idem]
      -- Nothing is left when the source spells the arithmetic as the model does. The rest disposes of what a source
      -- that spells it differently leaves, line by line: the tests the hypotheses did not decide as written (a zero
      -- test spelt as nested `if`s, the outcome of `overflowPanic`); the branches that contradict `h0`, `h1`, `h2` and
      -- those whose sides agree already; the wraps of what is in range (`wrap32 (carry * 1000000000)`, a sum wrapped
      -- twice), so that both sides name the same sums; the branches that agree after that; linear arithmetic over
      -- the fields.
      all_goals (repeat' split)
      all_goals (try simp_all)
      all_goals (try simp (disch := omega) only [wrap32_id, wrap64_id, wrap64_idem, wrap32_idem, ← Int.sub_eq_add_neg] at *)
      all_goals (try simp_all)
      all_goals (try omega)

end Timepb

end Pulsar
