/-
  Pulsar.Proofs.GoSrcSoz — runtime.Soz as translated from the Go source is the model `soz`.
-/
import Pulsar.Proofs.GoSrcSov
namespace Pulsar
open Pulsar.Timepb

theorem src_Soz (x : Nat) (hx : x < 18446744073709551616) : Xf.runtime_Soz x = .ok (soz x : Int) := by
  unfold Xf.runtime_Soz soz
  have e : Int.toNat (((wrap64 (x : Int)) / (9223372036854775808 : Int)) % 18446744073709551616)
      = (if x < 9223372036854775808 then 0 else 18446744073709551615) := by
    rw [wrap64_eq]
    split <;> omega
  rw [e, src_Sov _ (by
    apply Nat.xor_lt_two_pow (n := 64)
    · exact Nat.mod_lt _ (by decide)
    · split <;> decide)]
  rfl

end Pulsar
