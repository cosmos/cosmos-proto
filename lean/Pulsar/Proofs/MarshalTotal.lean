/-
  Pulsar.Proofs.MarshalTotal — the generated marshal closure does not panic on values whose zig-zag scalars are
  in range (`Good`, which also rules out typed-nil oneof wrappers: see `GSlot`; no typing, no
  schema well-formedness beyond "no packed message field"): every field chunk is exactly as long as the size
  closure predicted, so the back-filled buffer is filled exactly and the write index ends at 0. The namespace
  `PU` stands for "post-usable", after C06_post_usable (a decoded message can be marshalled again).
-/
import Pulsar.Proofs.EncodeKeyOrder
import Pulsar.Proofs.EncodeOrder
namespace Pulsar

theorem concatRes_all_ok : ∀ (cs : List Bytes), concatRes (cs.map Res.ok) = .ok cs.flatten
  | [] => rfl
  | c :: cs => by simp [concatRes, concatRes_all_ok cs]

theorem concatRes_map_ok {α : Type} (F : α → Res Bytes) (g : α → Bytes) (l : List α)
    (h : ∀ x ∈ l, F x = .ok (g x)) : concatRes (l.map F) = .ok (l.map g).flatten := by
  have : l.map F = (l.map g).map Res.ok := by rw [List.map_map]; exact List.map_congr_left h
  rw [this, concatRes_all_ok]

theorem writeAll_ok (cs : List Bytes) : ∀ (n : Nat) (s : Bytes), (cs.map List.length).sum ≤ n →
    (BackBuf.mk n s).writeAll (cs.map Res.ok) =
      .ok ⟨n - (cs.map List.length).sum, cs.reverse.flatten ++ s⟩ := by
  induction cs with
  | nil => intro n s _; simp [BackBuf.writeAll]
  | cons c cs ih =>
    intro n s h
    simp only [List.map_cons, List.sum_cons] at h
    have hc : c.length ≤ n := by omega
    simp only [List.map_cons, BackBuf.writeAll, BackBuf.write, hc, if_true]
    rw [ih (n - c.length) (c ++ s) (by omega)]
    simp only [List.sum_cons, List.reverse_cons, List.flatten_append, List.flatten_cons,
      List.flatten_nil, List.append_nil, List.append_assoc]
    congr 2
    omega

end Pulsar

namespace Pulsar.PU
open Pulsar

/-- the two kinds whose size expression and marshal bytes only agree on in-range bit patterns -/
def rangeOK (k : Kind) (v : Val) : Bool :=
  match k with
  | .sint32 => decide (v.getBits < 4294967296)
  | .sint64 => decide (v.getBits < 18446744073709551616)
  | _ => true

theorem scalar_length (k : Kind) (v : Val) (h : rangeOK k v = true) :
    (implScalarBytes k v).length = implScalarSize k v := by
  cases k <;> simp only [implScalarBytes, implScalarSize, fixed64, fixed32, length_le,
    sov_eq_varint_length, List.length_append, List.length_cons, List.length_nil]
  case sint32 =>
    simp only [rangeOK, decide_eq_true_eq] at h
    rw [soz_eq_varint_length _ (sext32_lt h), zigzag32_eq h]
  case sint64 =>
    simp only [rangeOK, decide_eq_true_eq] at h
    rw [soz_eq_varint_length _ h]
  case string => omega
  case bytes => omega

theorem sum_scalarSize {k : Kind} {es : List Val} (h : ∀ x ∈ es, rangeOK k x = true) :
    (es.map (implScalarSize k)).sum = (es.map (implScalarBytes k)).flatten.length := by
  rw [List.length_flatten, List.map_map]
  exact congrArg List.sum (List.map_congr_left (fun x hx => (scalar_length k x (h x hx)).symm))

theorem keySize_eq (num wt : Nat) : keySize num wt = (keyBytes num wt).length := keySize_eq_length num wt

theorem exists_map_ok {α : Type} (F : α → Res Bytes) (G : α → Nat) : ∀ (xs : List α),
    (∀ x ∈ xs, ∃ b, F x = .ok b ∧ b.length = G x) →
    ∃ cs : List Bytes, xs.map F = cs.map Res.ok ∧ cs.map List.length = xs.map G
  | [], _ => ⟨[], rfl, rfl⟩
  | x :: xs, h => by
    obtain ⟨b, hb, hl⟩ := h x List.mem_cons_self
    obtain ⟨cs, h1, h2⟩ := exists_map_ok F G xs (fun y hy => h y (List.mem_cons_of_mem _ hy))
    exact ⟨b :: cs, by simp [hb, h1], by simp [hl, h2]⟩

theorem concatRes_ok {α : Type} (F : α → Res Bytes) (G : α → Nat) (xs : List α)
    (h : ∀ x ∈ xs, ∃ b, F x = .ok b ∧ b.length = G x) :
    ∃ bs, concatRes (xs.map F) = .ok bs ∧ bs.length = (xs.map G).sum := by
  obtain ⟨cs, h1, h2⟩ := exists_map_ok F G xs h
  exact ⟨cs.flatten, by rw [h1, concatRes_all_ok], by rw [List.length_flatten, h2]⟩

def GElem (child : Nat → Val → Prop) (e : Elem) (v : Val) : Prop :=
  match e with
  | .scalar k => rangeOK k v = true
  | .message i => child i v

/-- What is asked of a slot, given what is asked of the next level (`child`). The oneof case excludes the typed-nil
    wrapper. The marshal code writes nothing for one (`case *W: if x == nil { break }`, 424cbe1), so no proof in
    this file uses that conjunct; it is part of the domain because a decoder never builds one (DecodeGood shows that
    decoded values are `Good`). -/
def GSlot (child : Nat → Val → Prop) (f : FieldDesc) (v : Val) : Prop :=
  match f.shape with
  | .singular => v.isNone = true ∨ GElem child f.elem v
  | .oneof _ => v ≠ .oneNil ∧ ∀ x, v = .one x → GElem child f.elem x
  | .repeated pk => (pk = true → ∃ k, f.elem = .scalar k) ∧ ∀ x ∈ v.elems, GElem child f.elem x
  | .map kk => ∀ en ∈ v.elems, rangeOK kk en.key = true ∧ GElem child f.elem en.value

section level
variable (o : MOpts) (childEnc : Nat → Val → Res Bytes) (childSize : Nat → Val → Nat)

def ChildOK (i : Nat) (v : Val) : Prop := ∃ b, childEnc i v = .ok b ∧ b.length = childSize i v

-- `D`: what is asked of the next level
variable {D : Nat → Val → Prop} (hD : ∀ i v, D i v → ChildOK childEnc childSize i v)
include hD

theorem elem_ok {e : Elem} {v : Val} (h : GElem D e v) :
    ∃ b, implElemBytes childEnc e v = .ok b ∧ b.length = implElemSize childSize e v := by
  cases e with
  | scalar k => exact ⟨_, rfl, scalar_length k v h⟩
  | message i =>
    obtain ⟨b, hb, hl⟩ := hD i v h
    refine ⟨varint b.length ++ b, by simp [implElemBytes, hb], ?_⟩
    simp only [implElemSize, List.length_append, sov_eq_varint_length, hl]
    omega

/-- `key ++ element`, as every non-packed record is written -/
theorem keyed_ok (key : Bytes) {e : Elem} {v : Val} (h : GElem D e v) :
    ∃ b, (match implElemBytes childEnc e v with
          | .ok b => Res.ok (key ++ b) | .err e => .err e | .panic => .panic) = .ok b ∧
      b.length = key.length + implElemSize childSize e v := by
  obtain ⟨b, hb, hl⟩ := elem_ok childEnc childSize hD h
  exact ⟨key ++ b, by simp only [hb], by simp only [List.length_append, hl]⟩

omit hD in
theorem implFieldBytes_packed {f : FieldDesc} {k : Kind} (hs : f.shape = .repeated true) (he : f.elem = .scalar k)
    {v : Val} (hne : v.elems.isEmpty = false) (h : ∀ x ∈ v.elems, rangeOK k x = true) :
    implFieldBytes o childEnc f v = .ok (keyBytes f.num 2 ++
      varint (v.elems.map (implScalarBytes k)).flatten.length ++ (v.elems.map (implScalarBytes k)).flatten) := by
  have hfin : ∀ reserved : Nat, reserved = (v.elems.map (implScalarBytes k)).flatten.length →
      (if reserved = (v.elems.map (implScalarBytes k)).flatten.length
        then Res.ok (keyBytes f.num 2 ++ varint reserved ++ (v.elems.map (implScalarBytes k)).flatten)
        else Res.panic) = Res.ok (keyBytes f.num 2 ++
          varint (v.elems.map (implScalarBytes k)).flatten.length ++ (v.elems.map (implScalarBytes k)).flatten) := by
    rintro _ rfl; exact if_pos rfl
  simp only [implFieldBytes, hs, he, hne, Bool.false_eq_true, if_false, if_true]
  split
  · exact hfin _ (sum_scalarSize h)
  · exact hfin _ rfl

theorem entry_ok (hsz0 : ∀ i v, v.isNone = true → childSize i v = 0) (num : Nat) (kk : Kind) (e : Elem) (en : Val)
    (hk : rangeOK kk en.key = true) (hv : GElem D e en.value) :
    ∃ b, implEntryBytes childEnc num kk e en = .ok b ∧ b.length = implEntrySize childSize num kk e en := by
  obtain ⟨vb, hvb, hvl⟩ := elem_ok childEnc childSize hD hv
  simp only [implEntryBytes, hvb]
  refine ⟨_, rfl, ?_⟩
  have hbody : (keyBytes 1 (Extracted.wireType kk) ++ implScalarBytes kk en.key ++ keyBytes 2 e.wireType ++ vb).length =
      keySize 1 (Extracted.wireType kk) + implScalarSize kk en.key + (keySize 2 e.wireType + vb.length) := by
    simp only [List.length_append, ← keySize_eq, scalar_length kk en.key hk]; omega
  generalize keyBytes 1 (Extracted.wireType kk) ++ implScalarBytes kk en.key ++ keyBytes 2 e.wireType ++ vb = body
    at hbody ⊢
  simp only [List.length_append, hbody, ← keySize_eq, ← sov_eq_varint_length, hvl]
  cases e with
  | scalar k => simp only [implEntrySize, implElemSize, Elem.wireType]; omega
  | message i =>
    have h0 : (if en.value.isNone = true then 0 else childSize i en.value) = childSize i en.value := by
      split
      · rename_i hn; exact (hsz0 i _ hn).symm
      · rfl
    have : keySize 2 (Elem.message i).wireType + implElemSize childSize (Elem.message i) en.value =
        childSize i en.value + (keySize 2 Extracted.messageWireType + sov (childSize i en.value)) := by
      simp only [implElemSize, Elem.wireType]; omega
    rw [this]; simp only [implEntrySize, h0]; omega

theorem field_ok (hsz0 : ∀ i v, v.isNone = true → childSize i v = 0)
    (hmem : ∀ kk es x, x ∈ ordOf o kk es → x ∈ es)
    {f : FieldDesc} {v : Val} (h : GSlot D f v) :
    ∃ b, implFieldBytes o childEnc f v = .ok b ∧ b.length = implFieldSize o childSize f v := by
  unfold GSlot at h
  cases hsh : f.shape with
  | singular =>
    simp only [implFieldBytes, implFieldSize, keySize_eq, hsh] at h ⊢
    cases hel : f.elem with
    | scalar k =>
      simp only [hel] at h ⊢
      split
      · rename_i hp
        rcases h with h | h
        · -- a nil in a scalar slot reads as zero / empty: not present
          rw [isNone_eq_true h, implPresent_none] at hp; cases hp
        · exact ⟨_, rfl, by simp only [List.length_append, scalar_length k v h]⟩
      · exact ⟨[], rfl, rfl⟩
    | message mi =>
      dsimp only
      split
      · exact ⟨[], rfl, rfl⟩
      · rename_i hn
        exact keyed_ok childEnc childSize hD _ (hel ▸ h.resolve_left hn)
  | oneof g =>
    simp only [implFieldBytes, implFieldSize, keySize_eq, hsh] at h ⊢
    cases v with
    | one x => exact keyed_ok childEnc childSize hD _ (h.2 x rfl)
    | _ => exact ⟨[], rfl, rfl⟩
  | repeated pk =>
    simp only [hsh] at h
    obtain ⟨hpk, hall⟩ := h
    by_cases hemp : v.elems.isEmpty = true
    · exact ⟨[], by simp only [implFieldBytes, hsh, hemp, if_true],
        by simp only [implFieldSize, hsh, hemp, if_true, List.length_nil]⟩
    · cases pk with
      | true =>
        obtain ⟨k, hk⟩ := hpk rfl
        rw [hk] at hall
        refine ⟨_, implFieldBytes_packed o childEnc hsh hk (by simpa using hemp) hall, ?_⟩
        have : (v.elems.map (implElemSize childSize (Elem.scalar k))) = v.elems.map (implScalarSize k) := rfl
        simp only [implFieldSize, hsh, hemp, hk, Bool.false_eq_true, if_false, if_true, List.length_append,
          sov_eq_varint_length, this, sum_scalarSize hall, keySize_eq]
      | false =>
        simp only [implFieldBytes, implFieldSize, keySize_eq, hsh, hemp, Bool.false_eq_true, if_false]
        exact concatRes_ok _ _ _ (fun x hx => keyed_ok childEnc childSize hD _ (hall x hx))
  | map kk =>
    simp only [implFieldBytes, implFieldSize, hsh] at h ⊢
    exact concatRes_ok _ _ _ (fun en hen =>
      entry_ok childEnc childSize hD hsz0 f.num kk f.elem en (h en (hmem kk _ en hen)).1 (h en (hmem kk _ en hen)).2)

end level

theorem lvl_ok (S : Schema) (i : Nat) (o : MOpts) (childEnc : Nat → Val → Res Bytes) (childSize : Nat → Val → Nat)
    {D : Nat → Val → Prop} (hD : ∀ i v, D i v → ChildOK childEnc childSize i v)
    (hsz0 : ∀ i v, v.isNone = true → childSize i v = 0)
    (hmem : ∀ kk es x, x ∈ ordOf o kk es → x ∈ es) (v : Val)
    (hf : ∀ p ∈ (S.msg i).fields.zip v.slots, GSlot D p.1 p.2) :
    ∃ cs : List Bytes,
      (writeOrder ((S.msg i).fields.zip v.slots)).map (fun p => implFieldBytes o childEnc p.1 p.2) = cs.map Res.ok ∧
      (BackBuf.mk (implSizeLvl S i o childSize v) []).writeAll
          (implWriteSeq o childEnc ((S.msg i).fields.zip v.slots) v.unknown) =
        .ok ⟨0, cs.reverse.flatten ++ v.unknown⟩ ∧
      (cs.reverse.flatten ++ v.unknown).length = implSizeLvl S i o childSize v := by
  obtain ⟨cs, h1, h2⟩ := exists_map_ok (fun p : FieldDesc × Val => implFieldBytes o childEnc p.1 p.2)
    (fun p => implFieldSize o childSize p.1 p.2) (writeOrder ((S.msg i).fields.zip v.slots))
    (fun p hp => field_ok o childEnc childSize hD hsz0 hmem (hf p ((writeOrder_perm _).mem_iff.1 hp)))
  -- the chunk lengths are the size terms of all fields, each once: they add up to `implSizeLvl`
  have hsum : ((v.unknown :: cs).map List.length).sum = implSizeLvl S i o childSize v := by
    rw [List.map_cons, List.sum_cons, h2, ((writeOrder_perm _).map _).sum_nat, implSizeLvl, Nat.add_comm]
  refine ⟨cs, h1, ?_, by
    rw [← hsum, List.length_append, List.length_flatten, List.map_reverse, List.sum_reverse, List.map_cons,
      List.sum_cons, Nat.add_comm]⟩
  have := writeAll_ok (v.unknown :: cs) (implSizeLvl S i o childSize v) [] (by rw [hsum]; exact Nat.le_refl _)
  rw [hsum, Nat.sub_self] at this
  rw [implWriteSeq_eq, h1]
  simpa only [List.map_cons, List.reverse_cons, List.flatten_append, List.flatten_cons, List.flatten_nil,
    List.append_nil] using this

/-- schema-driven, per marshal fuel: `GSlot` at every level; fuel `0` marshals nothing. -/
def Good (S : Schema) : Nat → Nat → Val → Prop
  | 0, _, _ => True
  | fuel+1, i, v => v.isNone = true ∨ ∀ p ∈ (S.msg i).fields.zip v.slots, GSlot (Good S fuel) p.1 p.2

theorem GSlot_mono {c1 c2 : Nat → Val → Prop} (h : ∀ i v, c1 i v → c2 i v) {f : FieldDesc} {v : Val}
    (hs : GSlot c1 f v) : GSlot c2 f v := by
  have he : ∀ e x, GElem c1 e x → GElem c2 e x := by
    intro e x hx
    cases e with
    | scalar k => exact hx
    | message i => exact h i x hx
  unfold GSlot at hs ⊢
  cases hsh : f.shape with
  | singular =>
    simp only [hsh] at hs ⊢
    exact hs.imp id (he _ _)
  | oneof g =>
    simp only [hsh] at hs ⊢
    exact ⟨hs.1, fun x hx => he _ _ (hs.2 x hx)⟩
  | repeated pk =>
    simp only [hsh] at hs ⊢
    exact ⟨hs.1, fun x hx => he _ _ (hs.2 x hx)⟩
  | map kk =>
    simp only [hsh] at hs ⊢
    exact fun en hen => ⟨(hs en hen).1, he _ _ (hs en hen).2⟩

theorem implSize_none (S : Schema) (o : MOpts) (fuel i : Nat) (v : Val) (h : v.isNone = true) :
    implSize S o fuel i v = 0 := by
  cases fuel with
  | zero => rfl
  | succ fuel => simp [implSize, h]

theorem mem_ord (o : MOpts) (hperm : o.det = false → ∀ l x, x ∈ o.perm l → x ∈ l) (kk : Kind) (es : List Val)
    (x : Val) (h : x ∈ ordOf o kk es) : x ∈ es := by
  unfold ordOf at h
  split at h
  · exact (sortEntries_perm kk es).mem_iff.1 h
  · rename_i hd; exact hperm (by simpa using hd) _ _ h

theorem marshalClosure_ok (S : Schema) (o : MOpts) (hperm : o.det = false → ∀ l x, x ∈ o.perm l → x ∈ l) :
    ∀ (fuel i : Nat) (v : Val), Good S fuel i v →
      ∃ b, implMarshalClosure S o fuel i v = .ok b ∧ b.length = implSize S o fuel i v := by
  intro fuel
  induction fuel with
  | zero => intro i v _; exact ⟨[], rfl, rfl⟩
  | succ fuel ih =>
    intro i v hg
    simp only [implMarshalClosure, implSize]
    split
    · exact ⟨[], rfl, rfl⟩
    · rename_i hn
      obtain ⟨cs, _, hw, hl⟩ := lvl_ok S i o (implMarshalClosure S o fuel) (implSize S o fuel) ih
        (implSize_none S o fuel) (mem_ord o hperm) v (hg.resolve_left hn)
      exact ⟨_, by simp only [implMarshalLvl, hw, List.replicate_zero, List.nil_append], hl⟩

end Pulsar.PU
