/-
  Pulsar.Proofs.RtField — one field of the round trip. The strict reference decoder, run on what the reference
  encoder writes for a well-typed slot (`gField`: element records, a packed run, map entry records, runs of them),
  stores in that field's slot a value that normalises (`repSlot`) to the encoded one and touches nothing else.
-/
import Pulsar.Proofs.RtStep
import Pulsar.Proofs.EncodeTyped
namespace Pulsar

/-- What the field lemmas assume about the next nesting level. -/
structure RtChild (S : Schema) (B : Nat) (cOK cU cK : Nat → Val → Bool) (child : Nat → Val → Bytes)
    (cd : Nat → Val → Bytes → Res Val) (rn : Nat → Val → Val) : Prop where
  nn : ∀ j x, cOK j x = true → x.isNone = false
  rt : ∀ j x, cOK j x = true → cU j x = true → cK j x = true → (child j x).length < B →
    ∃ w, cd j (emptyMsg S j) (child j x) = .ok w ∧ rn j w = rn j x ∧ w.isNone = false

section level
variable {S : Schema} {i n B : Nat} {cOK cU cK : Nat → Val → Bool} {child : Nat → Val → Bytes}
  {cd : Nat → Val → Bytes → Res Val} {rn : Nat → Val → Val}

section elem
variable {f : FieldDesc} {j : Nat} {ss : List Val} {u : Bytes}

variable (H : RtChild S B cOK cU cK child cd rn) (hB : B ≤ 18446744073709551616)
include H hB

theorem readElem_rt {e : Elem} {x old : Val}
    (hold : ∀ mi, e = .message mi → old.isNone = true)
    (hx : elemOK cOK e false x = true) (hu : utf8Elem cU e x = true) (hk : unknownElem cK e x = true)
    (hlen : (specElem child e x).length < B) (rest : Bytes) :
    ∃ x', specReadElem cd S e old (specElem child e x ++ rest) = .ok (x', rest) ∧
      repElem rn e x' = repElem rn e x := by
  cases e with
  | scalar k =>
    rw [elemOK_scalar] at hx
    refine ⟨decScalar k x, specReadScalar_specScalar hx ?_ ?_ rest, decScalar_rep rn k k x⟩
    · rintro rfl; simpa [utf8Elem] using hu
    · have := getBlob_length_le hx
      simp only [specElem] at hlen; omega
  | message mi =>
    rw [elemOK_message] at hx
    have hnn := H.nn mi x hx
    obtain ⟨w, hw, hr, hwn⟩ := H.rt mi x hx (by simpa [utf8Elem, hnn] using hu)
      (by simpa [unknownElem, hnn] using hk)
      (by have := varint_length_pos (child mi x).length; simp only [specElem, List.length_append] at hlen; omega)
    refine ⟨w, ?_, by simp [repElem, hnn, hwn, hr]⟩
    simp only [specReadElem, hold mi rfl, if_true, specElem, List.append_assoc]
    exact specPayload_varint hw (by simp only [specElem, List.length_append] at hlen; omega) rest

theorem rec_elem (hfind : findField (S.msg i).fields f.num = some (j, f)) (hwf : f.wf n = true)
    (hm : ∀ kk, f.shape ≠ .map kk)
    (hcur : ∀ mi, f.elem = .message mi → (f.target (ss.getD j .none)).isNone = true)
    {x : Val} (hx : elemOK cOK f.elem false x = true) (hu : utf8Elem cU f.elem x = true)
    (hk : unknownElem cK f.elem x = true) (hlen : (specTag f ++ specElem child f.elem x).length ≤ B)
    (rest : Bytes) :
    ∃ x', Steps S i cd (.msg ss u) (specTag f ++ specElem child f.elem x ++ rest)
        (storeSlot (S.msg i).fields f j (.msg ss u) (f.put (ss.getD j .none) x')) rest ∧
      repElem rn f.elem x' = repElem rn f.elem x := by
  have htl := tag_length_pos f.num f.elem.wireType
  rw [specTag_eq] at hlen ⊢
  obtain ⟨x', hr, hrep⟩ := readElem_rt H hB hcur hx hu hk
    (by simp only [List.length_append] at hlen; omega) rest
  refine ⟨x', Steps.of_specStep (specStep_elem (m := .msg ss u) ?_ (by have := FieldDesc.wf_num hwf; omega)
    hfind hm hr) (by simp only [List.length_append]; omega), hrep⟩
  rw [List.append_assoc]
  exact consumeTag_tag (FieldDesc.wf_num_pos hwf) (FieldDesc.wf_num hwf) (elem_wireType_lt_8 _) _

end elem

section packedAndMap
variable {f : FieldDesc} {j : Nat} {ss : List Val} {u : Bytes}

theorem rec_packed (hfind : findField (S.msg i).fields f.num = some (j, f)) (hwf : f.wf n = true)
    {pk : Bool} {k : Kind} {es : List Val} {nn : Bool} {acc : List Val}
    (hs : f.shape = .repeated pk) (he : f.elem = .scalar k) (hblob : k.isBlob = false)
    (hcur : ss.getD j .none = .list nn acc) (hes : ∀ x ∈ es, scalarOK k x = true)
    (hlen : ((es.map (specScalar k)).flatten).length < 18446744073709551616) (rest : Bytes) :
    Steps S i cd (.msg ss u)
      (tag f.num 2 ++ varint ((es.map (specScalar k)).flatten).length ++ (es.map (specScalar k)).flatten ++ rest)
      (.msg (ss.set j (.list (nn || !es.isEmpty) (acc ++ es))) u) rest := by
  have ht := consumeTag_tag (FieldDesc.wf_num_pos hwf) (FieldDesc.wf_num hwf) (show 2 < 8 by omega)
    (varint ((es.map (specScalar k)).flatten).length ++ ((es.map (specScalar k)).flatten ++ rest))
  have hp := specPackedLoop_run hblob es ((es.map (specScalar k)).flatten).length [] hes (Nat.le_refl _)
  rw [List.nil_append] at hp
  have := specStep_packed (cd := cd) (m := .msg ss u) (pk := pk) ht (by have := FieldDesc.wf_num hwf; omega)
    hfind hs he (by simp [Kind.packable, hblob])
    (specPayload_varint (X := fun p => specPackedLoop k p.length p []) hp hlen rest)
  simp only [Val.slot, Val.slots, hcur, packedNonNil, Val.elems, Val.setSlot] at this
  simp only [List.append_assoc]
  exact Steps.of_specStep this (by have := tag_length_pos f.num 2; simp only [List.length_append]; omega)

variable (H : RtChild S B cOK cU cK child cd rn) (hB : B ≤ 18446744073709551616)
include H hB

theorem entryLoop_rt {kk : Kind} {e : Elem} {en : Val}
    (hen : entryOK cOK false kk e en = true)
    (hu : ((kk != .string || utf8Valid en.key.getBlob) && utf8Elem cU e en.value) = true)
    (hk : unknownElem cK e en.value = true)
    (hlen : (specEntry child kk e en).length < B) (fuel : Nat) (k0 : Val) :
    ∃ x', specEntryLoop true cd kk e (fuel + 2) (specEntry child kk e en) k0 (specV0 S e) =
        .ok (decScalar kk en.key, x') ∧ repElem rn e x' = repElem rn e en.value := by
  obtain ⟨k, x, rfl, hk1, hx1⟩ := entryOK_iff.1 hen
  rw [specEntry_eq] at hlen ⊢
  simp only [Val.key, Val.value, Bool.and_eq_true, Bool.or_eq_true, bne_iff_ne, ne_eq, List.length_append,
    List.append_assoc] at hu hk hlen ⊢
  have hkl := getBlob_length_le hk1
  obtain ⟨x', hr, hrep⟩ := readElem_rt H hB (old := .none) (fun _ _ => rfl) hx1 hu.2 hk (by omega) []
  have hkey := specReadScalar_specScalar hk1 (fun h => hu.1.resolve_left (fun h' => h' h)) (by omega)
    (tag 2 e.wireType ++ specElem child e x)
  have ht1 := consumeTag_tag (num := 1) (by omega) (by omega) (specWireType_lt_8 kk)
    (specScalar kk k ++ (tag 2 e.wireType ++ specElem child e x))
  have ht2 := consumeTag_tag (num := 2) (by omega) (by omega) (elem_wireType_lt_8 e) (specElem child e x)
  rw [List.append_nil] at hr
  refine ⟨x', ?_, hrep⟩
  rw [specEntryLoop_succ, if_neg (ne_nil_of_consumeTag ht1), specEntryStep_key ht1 hkey, Res.bind_ok,
    specEntryLoop_succ, if_neg (ne_nil_of_consumeTag ht2), specEntryStep_value ht2 rfl hr, Res.bind_ok,
    specEntryLoop_nil]

theorem rec_map (hfind : findField (S.msg i).fields f.num = some (j, f)) (hwf : f.wf n = true)
    {kk : Kind} {en : Val} (hs : f.shape = .map kk)
    (hen : entryOK cOK false kk f.elem en = true)
    (hu : ((kk != .string || utf8Valid en.key.getBlob) && utf8Elem cU f.elem en.value) = true)
    (hk : unknownElem cK f.elem en.value = true)
    (hlen : (specEntry child kk f.elem en).length < B) (rest : Bytes) :
    ∃ x', Steps S i cd (.msg ss u)
        (tag f.num 2 ++ varint (specEntry child kk f.elem en).length ++ specEntry child kk f.elem en ++ rest)
        (.msg (ss.set j (.map true (mapPut (kbeqOf kk) (ss.getD j .none).elems (decScalar kk en.key) x'))) u) rest ∧
      repElem rn f.elem x' = repElem rn f.elem en.value := by
  have h2 : 2 ≤ (specEntry child kk f.elem en).length := by
    have := tag_length_pos 1 kk.specWireType
    have := specScalar_length_pos kk en.key
    simp only [specEntry, List.length_append]; omega
  obtain ⟨g, hg⟩ : ∃ g, (specEntry child kk f.elem en).length = g + 2 :=
    ⟨(specEntry child kk f.elem en).length - 2, by omega⟩
  obtain ⟨x', hloop, hrep⟩ := entryLoop_rt H hB hen hu hk hlen g
    (Elem.zeroVar (.scalar kk))
  have ht := consumeTag_tag (FieldDesc.wf_num_pos hwf) (FieldDesc.wf_num hwf) (show 2 < 8 by omega)
    (varint (specEntry child kk f.elem en).length ++ (specEntry child kk f.elem en ++ rest))
  have := specStep_map (cd := cd) (m := .msg ss u) ht (by have := FieldDesc.wf_num hwf; omega) hfind hs
    (specPayload_varint (X := fun p => specEntryLoop true cd kk f.elem p.length p (Elem.zeroVar (.scalar kk))
      (specV0 S f.elem)) (by rw [hg]; exact hloop) (by omega) rest)
  simp only [List.append_assoc]
  exact ⟨x', Steps.of_specStep this (by have := tag_length_pos f.num 2; simp only [List.length_append]; omega), hrep⟩

end packedAndMap

section runs
variable {f : FieldDesc} {j : Nat} {u : Bytes}

/-- a run of records of one field, each of which updates slot `j` by `upd`: the slot ends as the fold of `upd`
    over what was decoded -/
theorem records_run {α β γ : Type} {enc : α → Bytes} {P : α → Prop} {r : β → γ} {r' : α → γ} {upd : Val → β → Val}
    (hrec : ∀ x, P x → ∀ (ss : List Val) (rest : Bytes), j < ss.length →
      ∃ y, r y = r' x ∧ Steps S i cd (.msg ss u) (enc x ++ rest)
        (.msg (ss.set j (upd (ss.getD j .none) y)) u) rest) :
    ∀ (xs : List α), (∀ x ∈ xs, P x) → ∀ (ss : List Val) (rest : Bytes), j < ss.length →
      ∃ ys : List β, ys.map r = xs.map r' ∧ Steps S i cd (.msg ss u) ((xs.map enc).flatten ++ rest)
        (.msg (ss.set j (ys.foldl upd (ss.getD j .none))) u) rest := by
  intro xs
  induction xs with
  | nil =>
    intro _ ss rest _
    refine ⟨[], rfl, ?_⟩
    simp only [List.map_nil, List.flatten_nil, List.nil_append, List.foldl_nil]
    rw [set_getD_self Val.none ss j]
    exact Steps.refl _ _
  | cons x xs ih =>
    intro hP ss rest hj
    obtain ⟨y, hR, hst⟩ := hrec x (hP x List.mem_cons_self) ss ((xs.map enc).flatten ++ rest) hj
    obtain ⟨ys, hRs, hst2⟩ := ih (fun z hz => hP z (List.mem_cons_of_mem _ hz))
      (ss.set j (upd (ss.getD j .none) y)) rest (by simpa using hj)
    refine ⟨y :: ys, by rw [List.map_cons, List.map_cons, hR, hRs], ?_⟩
    rw [getD_set_self hj, List.set_set] at hst2
    simpa only [List.map_cons, List.flatten_cons, List.append_assoc, List.foldl_cons] using hst.trans hst2

theorem foldl_append_one : ∀ (ys : List Val) (nn : Bool) (acc : List Val),
    ys.foldl (fun cur y => Val.list true (cur.elems ++ [y])) (.list nn acc) = .list (nn || !ys.isEmpty) (acc ++ ys)
  | [], nn, acc => by simp
  | y :: ys, nn, acc => by rw [List.foldl_cons, Val.elems, foldl_append_one ys]; simp

theorem foldl_mapPut_fresh (kk : Kind) : ∀ (ys : List (Val × Val)) (nn : Bool) (acc : List Val),
    ys.Pairwise (fun a b => kbeqOf kk a.1 b.1 = false) → (∀ a ∈ acc, ∀ y ∈ ys, kbeqOf kk a.key y.1 = false) →
    ys.foldl (fun cur y => Val.map true (mapPut (kbeqOf kk) cur.elems y.1 y.2)) (.map nn acc) =
      .map (nn || !ys.isEmpty) (acc ++ ys.map (fun y => .entry y.1 y.2))
  | [], nn, acc, _, _ => by simp
  | y :: ys, nn, acc, hpw, hacc => by
    rw [List.pairwise_cons] at hpw
    rw [List.foldl_cons, Val.elems, mapPut_fresh _ _ _ _ (fun a ha => hacc a ha y List.mem_cons_self),
      foldl_mapPut_fresh kk ys true _ hpw.2]
    · simp
    · intro a ha z hz
      rcases List.mem_append.1 ha with ha | ha
      · exact hacc a ha z (List.mem_cons_of_mem _ hz)
      · rw [List.mem_singleton.1 ha]; exact hpw.1 z hz

end runs

end level

section level
variable {S : Schema} {i n B : Nat} {cOK cU cK : Nat → Val → Bool} {child : Nat → Val → Bytes}
  {cd : Nat → Val → Bytes → Res Val} {rn : Nat → Val → Val}

variable (H : RtChild S B cOK cU cK child cd rn) (hB : B ≤ 18446744073709551616)
include H hB

theorem field_rt {ord : Kind → List Val → List Val} (hord : ∀ kk es, (ord kk es).Perm es)
    {f : FieldDesc} {j : Nat} {ss : List Val} {u : Bytes}
    (hfind : findField (S.msg i).fields f.num = some (j, f)) (hwf : f.wf n = true) {v : Val}
    (hv : slotOK cOK false f v = true) (hu : utf8Slot cU f v = true) (hk : unknownSlot cK f v = true)
    (hlen : (gField ord child f v).length ≤ B) (hj : j < ss.length) (hcur : ss.getD j .none = f.zero)
    (hclr : ∀ g, f.shape = .oneof g → v.isNone = false → clearGroup (S.msg i).fields g ss = ss)
    (rest : Bytes) :
    ∃ v', Steps S i cd (.msg ss u) (gField ord child f v ++ rest) (.msg (ss.set j v') u) rest ∧
      repSlot rn f v' = repSlot rn f v := by
  -- a field that contributes no bytes: the slot keeps its zero value
  have habsent : gField ord child f v = [] → repSlot rn f f.zero = repSlot rn f v →
      ∃ v', Steps S i cd (.msg ss u) (gField ord child f v ++ rest) (.msg (ss.set j v') u) rest ∧
        repSlot rn f v' = repSlot rn f v := by
    intro hg hrep
    refine ⟨f.zero, ?_, hrep⟩
    rw [hg, ← hcur, set_getD_self Val.none ss j]
    exact Steps.refl _ _
  have htagpos := tag_length_pos f.num
  cases hs : f.shape with
  | singular =>
    rw [slotOK_singular_iff hs] at hv
    simp only [utf8Slot, hs] at hu
    simp only [unknownSlot, hs] at hk
    have hpresent : gField ord child f v = specTag f ++ specElem child f.elem v →
        elemOK cOK f.elem false v = true →
        ∃ v', Steps S i cd (.msg ss u) (gField ord child f v ++ rest) (.msg (ss.set j v') u) rest ∧
          repSlot rn f v' = repSlot rn f v := by
      intro hg hx
      rw [hg] at hlen ⊢
      obtain ⟨x', hst, hrep⟩ := rec_elem (ss := ss) (u := u) H hB hfind hwf (by simp [hs])
        (fun mi he => by rw [hcur]; simp [FieldDesc.target, FieldDesc.zero, hs, he, Val.isNone]) hx hu hk hlen rest
      simp only [storeSlot, FieldDesc.put, hs] at hst
      exact ⟨x', hst, by simpa [repSlot, hs] using hrep⟩
    cases he : f.elem with
    | scalar k =>
      have hv' : scalarOK k v = true := by simpa [elemOK, he] using hv
      by_cases hp : specPresent k v = true
      · exact hpresent (by simp [gField, hs, he, hp, specElem]) (by simpa [he, elemOK] using hv')
      · apply habsent
        · simp [gField, hs, he, hp]
        · simp only [repSlot, hs, he, FieldDesc.zero]
          by_cases hb : k.isBlob = true
          · obtain ⟨nn, b, rfl⟩ := scalarOK_blob hv' hb
            have : b = [] := by simpa [specPresent, hb, Val.getBlob] using hp
            subst this
            simp [hb, repElem]
          · have hb' : k.isBlob = false := by simpa using hb
            obtain ⟨m, rfl, _⟩ := scalarOK_bits hv' hb'
            have : m = 0 := by simpa [specPresent, hb', Val.getBits] using hp
            subst this
            simp [hb']
    | message mi =>
      by_cases hnone : v.isNone = true
      · have := isNone_eq_true hnone; subst this
        apply habsent
        · simp [gField, hs, he, Val.isNone]
        · simp [FieldDesc.zero, hs, he]
      · have hnone' : v.isNone = false := by simpa using hnone
        exact hpresent (by simp [gField, hs, he, hnone']) (elemOK_of_not_none hv hnone')
  | oneof g =>
    simp only [utf8Slot, hs] at hu
    simp only [unknownSlot, hs] at hk
    have hz := FieldDesc.zero_oneof hs
    rcases (slotOK_oneof_iff hs).1 hv with rfl | ⟨x, rfl, hx⟩ | ⟨-, hjunk⟩
    · apply habsent
      · simp [gField, hs]
      · rw [hz]
    · have hg : gField ord child f (.one x) = specTag f ++ specElem child f.elem x := by
        simp [gField, hs]
      rw [hg] at hlen ⊢
      obtain ⟨x', hst, hrep⟩ := rec_elem (ss := ss) (u := u) H hB hfind hwf (by simp [hs])
        (fun _ _ => by rw [hcur, hz]; simp [FieldDesc.target, hs, Val.isNone]) hx hu hk hlen rest
      simp only [storeSlot, FieldDesc.put, hs, Val.slots, Val.unknown, hclr g hs rfl] at hst
      exact ⟨.one x', hst, by simpa [repSlot, hs] using hrep⟩
    · cases hjunk
  | repeated pk =>
    simp only [utf8Slot, hs] at hu
    simp only [unknownSlot, hs] at hk
    have hz : f.zero = .list false [] := by cases he : f.elem <;> simp [FieldDesc.zero, hs, he]
    obtain ⟨nn, es, rfl, hes⟩ := (slotOK_repeated_iff hs).1 hv
    simp only [Val.elems, List.all_eq_true] at hu hk
    by_cases hemp : es = []
    · subst hemp
      apply habsent
      · simp [gField, hs, Val.elems]
      · rw [hz]; simp [repSlot, hs, Val.elems]
    · have hemp' : es.isEmpty = false := by simpa using hemp
      cases pk with
      | true =>
        obtain ⟨k, he, hblob⟩ := FieldDesc.wf_packed hwf hs
        have hg : gField ord child f (.list nn es) =
            tag f.num 2 ++ varint ((es.map (specScalar k)).flatten).length ++ (es.map (specScalar k)).flatten := by
          simp only [gField, hs, Val.elems, hemp', he, Bool.false_eq_true, if_false, if_true]
          rfl
        rw [hg] at hlen ⊢
        rw [he] at hes
        have hst := rec_packed (S := S) (i := i) (cd := cd) (ss := ss) (u := u) hfind hwf hs he hblob
          (nn := false) (acc := []) (by rw [hcur, hz]) hes
          (by have := htagpos 2; simp only [List.length_append] at hlen; omega) rest
        refine ⟨_, hst, ?_⟩
        simp [repSlot, hs, Val.elems]
      | false =>
        have hg : gField ord child f (.list nn es) =
            (es.map (fun x => specTag f ++ specElem child f.elem x)).flatten := by
          simp [gField, hs, Val.elems, hemp']
        rw [hg] at hlen ⊢
        obtain ⟨es', hR, hst⟩ := records_run (S := S) (i := i) (cd := cd) (j := j) (u := u)
          (enc := fun x => specTag f ++ specElem child f.elem x) (P := fun x => x ∈ es)
          (r := repElem rn f.elem) (r' := repElem rn f.elem) (upd := fun cur y => .list true (cur.elems ++ [y]))
          (by
            intro x hx ss' rest' _
            obtain ⟨x', hst, hrep⟩ := rec_elem (ss := ss') (u := u) H hB hfind hwf (by simp [hs])
              (fun _ _ => by simp [FieldDesc.target, hs, Val.isNone]) (hes x hx) (hu x hx) (hk x hx)
              (Nat.le_trans (List.sublist_flatten_of_mem (List.mem_map_of_mem
                (f := fun x => specTag f ++ specElem child f.elem x) hx)).length_le hlen)
              rest'
            simp only [storeSlot, FieldDesc.put, hs] at hst
            exact ⟨x', hrep, hst⟩)
          es (fun x hx => hx) ss rest hj
        rw [hcur, hz, foldl_append_one] at hst
        refine ⟨_, hst, ?_⟩
        simp only [repSlot, hs, Val.elems, List.nil_append, hR]
  | map kk =>
    simp only [utf8Slot, hs] at hu
    simp only [unknownSlot, hs] at hk
    have hz : f.zero = .map false [] := by cases he : f.elem <;> simp [FieldDesc.zero, hs, he]
    obtain ⟨nn, es, rfl, hents, hdist⟩ := (slotOK_map_iff hs).1 hv
    simp only [Val.elems, List.all_eq_true] at hu hk
    have hg : gField ord child f (.map nn es) =
        ((ord kk es).map (fun en => tag f.num 2 ++ varint (specEntry child kk f.elem en).length ++
            specEntry child kk f.elem en)).flatten := by
      simp [gField, hs, Val.elems]
    rw [hg] at hlen ⊢
    have hperm := hord kk es
    have hmem : ∀ en, en ∈ ord kk es → en ∈ es := fun en h => hperm.mem_iff.1 h
    have hpw : (ord kk es).Pairwise (fun a b => kbeqOf kk a.key b.key = false) :=
      (distinctKeys_iff kk _).1 (distinctKeys_perm hperm.symm hdist)
    obtain ⟨l', hR, hst⟩ := records_run (S := S) (i := i) (cd := cd) (j := j) (u := u)
      (enc := fun en => tag f.num 2 ++ varint (specEntry child kk f.elem en).length ++ specEntry child kk f.elem en)
      (P := fun en => en ∈ ord kk es) (r := fun y : Val × Val => normEntry rn kk f.elem (.entry y.1 y.2))
      (r' := normEntry rn kk f.elem) (upd := fun cur y => .map true (mapPut (kbeqOf kk) cur.elems y.1 y.2))
      (by
        intro en hen ss' rest' _
        obtain ⟨x', hst, hrep⟩ := rec_map (ss := ss') (u := u) H hB hfind hwf hs (hents en (hmem en hen))
          (hu en (hmem en hen)) (hk en (hmem en hen))
          (by
            have := (List.sublist_flatten_of_mem (List.mem_map_of_mem (f := fun en => tag f.num 2 ++
              varint (specEntry child kk f.elem en).length ++ specEntry child kk f.elem en) hen)).length_le
            have := htagpos 2
            simp only [List.length_append] at *
            omega)
          rest'
        exact ⟨(decScalar kk en.key, x'), by simp only [normEntry, Val.key, Val.value, decScalar_rep, hrep], hst⟩)
      (ord kk es) (fun x hx => hx) ss rest hj
    -- the decoded keys differ like the encoded ones, so every `mapPut` appended
    have hpw' : l'.Pairwise (fun a b => kbeqOf kk a.1 b.1 = false) := by
      have h1 : ((ord kk es).map (normEntry rn kk f.elem)).Pairwise (fun a b => kbeqOf kk a.key b.key = false) :=
        List.pairwise_map.2 (hpw.imp fun {a b} h => by rw [kbeqOf_normEntry]; exact h)
      rw [← hR, List.pairwise_map] at h1
      exact h1.imp fun {a b} h => by rw [kbeqOf_normEntry] at h; exact h
    rw [hcur, hz, foldl_mapPut_fresh kk l' false [] hpw' (by intro a ha; cases ha)] at hst
    refine ⟨_, hst, ?_⟩
    simp only [repSlot, hs, Val.elems, List.nil_append]
    congr 1
    have hmap : (l'.map (fun y => Val.entry y.1 y.2)).map
          (fun en => Val.entry (repElem rn (.scalar kk) en.key) (repElem rn f.elem en.value)) =
        (ord kk es).map (fun en => Val.entry (repElem rn (.scalar kk) en.key) (repElem rn f.elem en.value)) := by
      rw [List.map_map]; exact hR
    rw [hmap]
    symm
    refine sortEntries_perm_eq kk (hperm.symm.map _) (fun en hen => ?_) (distinctKeys_map_normEntry rn kk f.elem hdist)
    obtain ⟨a, ha, rfl⟩ := List.mem_map.1 hen
    exact (scalarOK_normEntry_key rn kk f.elem a).trans (entryOK_key (hents a ha))

end level

end Pulsar
