/-
  Pulsar.Proofs.DecodeDeep — a self-recursive message nested deeper than the budget is rejected with the recursion
  error (C06_too_deep_rejected); nested so deep that a length prefix reaches 2^63, with the length error.
-/
import Pulsar.Proofs.DecodeNoPanic
namespace Pulsar

/-- `message M { M f = 1; }` -/
def recSchema : Schema := ⟨[⟨[⟨1, .message 0, .singular⟩]⟩]⟩
/-- `n` nested `field 1 { … }` records -/
def deepInput : Nat → Bytes
  | 0 => []
  | n+1 => let inner := deepInput n; [0x0a] ++ varint inner.length ++ inner

/-- the `++ []` makes the right side an instance of `readLenDelim_varint p rest` -/
theorem deepInput_succ (n : Nat) :
    deepInput (n + 1) = 0x0a :: (varint (deepInput n).length ++ (deepInput n ++ [])) := by
  simp [deepInput]

theorem deepInput_length_succ (n : Nat) :
    (deepInput (n + 1)).length = 1 + (varint (deepInput n).length).length + (deepInput n).length := by
  rw [deepInput_succ]
  simp only [List.length_cons, List.length_append, List.length_nil]
  omega

theorem deepInput_length_ge (n : Nat) : 2 * n ≤ (deepInput n).length := by
  induction n with
  | zero => simp
  | succ n ih =>
    have := varint_length_pos (deepInput n).length
    rw [deepInput_length_succ]
    omega

theorem closure_recSchema_err (o : UOpts) (f : Nat) (d : Int) (e : Err) (rest : Bytes) (m : Val)
    (hm : m.isNone = false) (hd : ¬ d < 0)
    (h : implReadMapField (implUnmarshalClosure recSchema o f (nestedLimit d)) recSchema (.message 0) (m.slot 0) rest
      = .err e) :
    implUnmarshalClosure recSchema o (f + 1) d 0 m (0x0a :: rest) = .err e := by
  have hfind : findField (recSchema.msg 0).fields (10 / 8 % 4294967296) = some (0, ⟨1, .message 0, .singular⟩) := by
    decide
  have htag : readVarint (0x0a :: rest) = .ok (10, rest) := by simp [readVarint, skipReadVarint]
  have hrec : implRecord recSchema 0 o (implUnmarshalClosure recSchema o f (nestedLimit d)) m (0x0a :: rest) = .err e := by
    rw [implRecord_of_tag htag (by decide) (by decide), hfind]
    dsimp only
    rw [implKnownField_eq]
    simp only [slotStep, FieldDesc.target]
    rw [h]
    rfl
  rw [implUnmarshalClosure_succ, if_neg (by simp [hm]), if_neg hd, List.length_cons, implUnmarshalLoop_succ,
    if_neg (List.cons_ne_nil _ _), hrec]
  rfl

theorem closure_selfRec_step (o : UOpts) (f : Nat) (d : Int) (e : Err) (bs : Bytes)
    (hl : bs.length < 9223372036854775808) (m : Val) (hm : m.isNone = false) (hd : ¬ d < 0)
    (hchild : ∀ into', into'.isNone = false →
      implUnmarshalClosure recSchema o f (nestedLimit d) 0 into' bs = .err e) :
    implUnmarshalClosure recSchema o (f + 1) d 0 m (0x0a :: (varint bs.length ++ (bs ++ []))) = .err e := by
  apply closure_recSchema_err o f d e _ m hm hd
  rw [implReadMapField_message, readLenDelim_varint bs [] hl, Res.bind_ok, hchild _ (Elem.orEmpty_isNone _ _ _)]
  rfl

theorem closure_selfRec_deep (o : UOpts) : ∀ (n d fuel : Nat) (m : Val), 1 ≤ d → d ≤ n → d + 1 ≤ fuel →
    m.isNone = false → (deepInput n).length < 9223372036854775808 →
    implUnmarshalClosure recSchema o fuel (d : Int) 0 m (deepInput n) = .err .depth := by
  intro n
  induction n with
  | zero => intro d fuel m h1 h2; omega
  | succ n ih =>
    intro d fuel m h1 h2 hf hm hl
    obtain ⟨f, rfl⟩ : ∃ f, fuel = f + 1 := ⟨fuel - 1, by omega⟩
    have hl' : (deepInput n).length < 9223372036854775808 := by
      have := deepInput_length_succ n; omega
    rw [deepInput_succ]
    apply closure_selfRec_step o f (d : Int) .depth _ hl' m hm (by omega)
    intro into' hinto
    by_cases hd1 : d = 1
    · subst hd1
      obtain ⟨f', rfl⟩ : ∃ f', f = f' + 1 := ⟨f - 1, by omega⟩
      rw [implUnmarshalClosure_succ]
      simp [hinto, nestedLimit]
    · have hnl : nestedLimit (d : Int) = ((d - 1 : Nat) : Int) := by
        rw [nestedLimit_of_two_le (by omega)]
        omega
      rw [hnl]
      exact ih (d - 1) f into' (by omega) (by omega) (by omega) hinto hl'

/-- at most 11 bytes per level while the total stays below 2^70 -/
theorem deepInput_length_le : ∀ (n : Nat), n ≤ 1152921504606846976 → (deepInput n).length ≤ 11 * n := by
  intro n
  induction n with
  | zero => intro _; simp [deepInput]
  | succ n ih =>
    intro hn
    have h := ih (by omega)
    rw [deepInput_length_succ]
    have : (varint (deepInput n).length).length ≤ 10 := varint_length_le 9 _ (by
      have : (128 : Nat) ^ (9 + 1) = 1180591620717411303424 := by decide
      omega)
    omega

/-- from level 2^55 on every level costs at least 10 bytes -/
theorem deepInput_length_ge10 : ∀ (k : Nat),
    72057594037927936 + 10 * k ≤ (deepInput (36028797018963968 + k)).length := by
  intro k
  induction k with
  | zero => have := deepInput_length_ge 36028797018963968; simpa using this
  | succ k ih =>
    rw [← Nat.add_assoc, deepInput_length_succ]
    have : 9 ≤ (varint (deepInput (36028797018963968 + k)).length).length := varint_length_ge 8 _ (by
      have : (128 : Nat) ^ 8 = 72057594037927936 := by decide
      omega)
    omega

/-- the level at which the (absurd) input crosses 2^63 bytes -/
def hugeDepth : Nat := 1152921504606846976

theorem deepInput_huge :
    9223372036854775808 ≤ (deepInput hugeDepth).length ∧ (deepInput hugeDepth).length < 18446744073709551616 := by
  constructor
  · have := deepInput_length_ge10 (hugeDepth - 36028797018963968)
    have e : 36028797018963968 + (hugeDepth - 36028797018963968) = hugeDepth := by decide
    rw [e] at this
    have e2 : hugeDepth - 36028797018963968 = 1116892707587883008 := by decide
    rw [e2] at this
    omega
  · have := deepInput_length_le hugeDepth (by decide)
    have e : 11 * hugeDepth = 12682136550675316736 := by decide
    omega

/-- once the nested payload is ≥ 2^63 bytes long its length prefix reads as a negative `int` -/
theorem implUnmarshal_selfRec_long (bs : Bytes) (hlo : 9223372036854775808 ≤ bs.length)
    (hhi : bs.length < 18446744073709551616) :
    implUnmarshal recSchema {} 0 (emptyMsg recSchema 0) (0x0a :: (varint bs.length ++ (bs ++ []))) =
      .err .invalidLength := by
  rw [implUnmarshal_fresh, List.length_cons]
  apply closure_recSchema_err {} _ 10000 .invalidLength _ _ rfl (by decide)
  rw [implReadMapField_message, readLenDelim_eq, readLen, readVarint_varint hhi, Res.bind_ok, if_pos hlo]
  rfl

end Pulsar
