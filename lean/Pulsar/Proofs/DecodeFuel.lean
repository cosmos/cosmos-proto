/-
  Pulsar.Proofs.DecodeFuel — the fuel of the closure bounds nothing (C06_fuel_irrelevant): every nested
  payload is strictly shorter than the input it is cut from, so the tree fuel `bs.length + 1` is never
  exhausted; and every loop iteration consumes input, so the loop fuels are not exhausted either.
-/
import Pulsar.Proofs.DecodeStep
namespace Pulsar

section congr
variable {c1 c2 : Nat → Val → Bytes → Res Val} {L : Nat}
  (hc : ∀ i into p, p.length < L → c1 i into p = c2 i into p)
include hc

theorem implReadMapField_congr (S : Schema) (e : Elem) (old : Val) (rest : Bytes) (hL : rest.length ≤ L) :
    implReadMapField c1 S e old rest = implReadMapField c2 S e old rest := by
  cases e with
  | scalar k => rfl
  | message i =>
    rw [implReadMapField_message, implReadMapField_message]
    refine Res.bind_congr fun pr hr => ?_
    have := readLenDelim_length hr
    rw [hc _ _ _ (by omega)]

theorem implEntryLoop_congr (S : Schema) (kk : Kind) (e : Elem) :
    ∀ (fuel : Nat) (rest : Bytes) (rem : Nat) (k v : Val), rest.length ≤ L →
      implEntryLoop c1 S kk e fuel rest rem k v = implEntryLoop c2 S kk e fuel rest rem k v := by
  intro fuel
  induction fuel with
  | zero => intro rest rem k v _; rfl
  | succ fuel ih =>
    intro rest rem k v hL
    rw [implEntryLoop_succ, implEntryLoop_succ]
    congr 1
    refine Res.bind_congr fun wr hv => ?_
    have := readVarint_length hv
    rw [implReadMapField_congr hc S e v wr.2 (by omega)]
    -- whatever is read next, less input than `rest` is left
    have shorter : ∀ {c : Nat → Val → Bytes → Res Val} {e' : Elem} {old x : Val} {r : Bytes},
        implReadMapField c S e' old wr.2 = .ok (x, r) → r.length ≤ L := by
      intro c e' old x r h
      have := implReadMapField_length h
      omega
    congr 1
    · exact Res.bind_congr fun kr hr => ih _ _ _ _ (shorter hr)
    · congr 1
      · exact Res.bind_congr fun vr hr => ih _ _ _ _ (shorter hr)
      · refine Res.bind_congr fun n _ => ?_
        congr 1
        exact ih _ _ _ _ (Nat.le_trans (by simp) hL)

theorem slotStep_congr (S : Schema) (f : FieldDesc) (wt : Nat) (cur : Val) (rest : Bytes) (hL : rest.length ≤ L) :
    slotStep S c1 f wt cur rest = slotStep S c2 f wt cur rest := by
  unfold slotStep
  rw [implReadMapField_congr hc S f.elem (f.target cur) rest hL]
  split
  · congr 1
    refine Res.bind_congr fun nr hn => ?_
    have := readLen_eq_ok hn
    rw [implEntryLoop_congr hc S _ _ _ _ _ _ _ (by simp only [List.length_take]; omega)]
  · rfl

theorem implRecord_congr (S : Schema) (i : Nat) (o : UOpts) (m : Val) (rest : Bytes) (hL : rest.length ≤ L) :
    implRecord S i o c1 m rest = implRecord S i o c2 m rest := by
  unfold implRecord
  refine Res.bind_congr fun wr hv => ?_
  have := readVarint_length hv
  congr 2
  split
  · rw [implKnownField_eq, implKnownField_eq, slotStep_congr hc S _ _ _ _ (by omega)]
  · rfl

theorem implUnmarshalLoop_congr (S : Schema) (i : Nat) (o : UOpts) :
    ∀ (fuel : Nat) (m : Val) (rest : Bytes), rest.length ≤ L →
      implUnmarshalLoop S i o c1 fuel m rest = implUnmarshalLoop S i o c2 fuel m rest := by
  intro fuel
  induction fuel with
  | zero => intro m rest _; rfl
  | succ fuel ih =>
    intro m rest hL
    rw [implUnmarshalLoop_succ, implUnmarshalLoop_succ, implRecord_congr hc S i o m rest hL]
    congr 1
    refine Res.bind_congr fun mr _ => ?_
    split
    · exact ih _ _ (by omega)
    · rfl

end congr

theorem implUnmarshalClosure_fuel (S : Schema) (o : UOpts) : ∀ (f1 f2 : Nat) (depth : Int) (i : Nat)
    (into : Val) (bs : Bytes), bs.length + 1 ≤ f1 → bs.length + 1 ≤ f2 →
    implUnmarshalClosure S o f1 depth i into bs = implUnmarshalClosure S o f2 depth i into bs := by
  intro f1
  induction f1 with
  | zero => intro f2 depth i into bs h; omega
  | succ f1 ih =>
    intro f2 depth i into bs h1 h2
    cases f2 with
    | zero => omega
    | succ f2 =>
      rw [implUnmarshalClosure_succ, implUnmarshalClosure_succ]
      congr 2
      exact implUnmarshalLoop_congr (L := bs.length) (fun i' into' p hp => ih f2 _ i' into' p (by omega) (by omega))
        S i o _ _ _ (Nat.le_refl _)

theorem implPackedLoop_fuel (k : Kind) : ∀ (f1 f2 : Nat) (rest : Bytes) (rem : Nat) (acc : List Val),
    rem ≤ f1 → rem ≤ f2 → implPackedLoop k f1 rest rem acc = implPackedLoop k f2 rest rem acc := by
  intro f1
  induction f1 with
  | zero =>
    intro f2 rest rem acc h1 _
    cases Nat.le_zero.1 h1
    cases f2 <;> simp [implPackedLoop]
  | succ f1 ih =>
    intro f2 rest rem acc h1 h2
    cases f2 with
    | zero =>
      cases Nat.le_zero.1 h2
      simp [implPackedLoop]
    | succ f2 =>
      rw [implPackedLoop_succ, implPackedLoop_succ]
      split
      · rfl
      · refine Res.bind_congr fun vr hs => ?_
        have := implReadScalar_length hs
        exact ih _ _ _ _ (by omega) (by omega)

theorem implEntryLoop_fuel (c : Nat → Val → Bytes → Res Val) (S : Schema) (kk : Kind) (e : Elem) :
    ∀ (f1 f2 : Nat) (rest : Bytes) (rem : Nat) (k v : Val), rem ≤ f1 → rem ≤ f2 →
      implEntryLoop c S kk e f1 rest rem k v = implEntryLoop c S kk e f2 rest rem k v := by
  intro f1
  induction f1 with
  | zero =>
    intro f2 rest rem k v h1 _
    cases Nat.le_zero.1 h1
    cases f2 <;> simp [implEntryLoop]
  | succ f1 ih =>
    intro f2 rest rem k v h1 h2
    cases f2 with
    | zero =>
      cases Nat.le_zero.1 h2
      simp [implEntryLoop]
    | succ f2 =>
      rw [implEntryLoop_succ, implEntryLoop_succ]
      refine ite_congr rfl (fun _ => rfl) fun h0 => Res.bind_congr fun wr hv => ?_
      have := readVarint_length hv
      -- a key or value read leaves less than `rest`, so `rem` goes down
      have less : ∀ {r : Bytes}, r.length < wr.2.length →
          rem - (rest.length - r.length) ≤ f1 ∧ rem - (rest.length - r.length) ≤ f2 := by
        intro r hr
        omega
      refine ite_congr rfl (fun _ => ?_) fun _ => ite_congr rfl (fun _ => ?_) fun _ => ?_
      · exact Res.bind_congr fun kr hr => ih _ _ _ _ _ (less (implReadMapField_length hr)).1 (less (implReadMapField_length hr)).2
      · exact Res.bind_congr fun vr hr => ih _ _ _ _ _ (less (implReadMapField_length hr)).1 (less (implReadMapField_length hr)).2
      · refine Res.bind_congr fun n hs => ite_congr rfl (fun _ => rfl) fun hn => ?_
        have := skip_progress rest n hs
        exact ih _ _ _ _ _ (by omega) (by omega)

theorem implUnmarshalLoop_fuel (S : Schema) (i : Nat) (o : UOpts) (c : Nat → Val → Bytes → Res Val) :
    ∀ (f1 f2 : Nat) (m : Val) (rest : Bytes), rest.length ≤ f1 → rest.length ≤ f2 →
      implUnmarshalLoop S i o c f1 m rest = implUnmarshalLoop S i o c f2 m rest := by
  intro f1
  induction f1 with
  | zero =>
    intro f2 m rest h1 _
    cases List.eq_nil_of_length_eq_zero (Nat.le_zero.1 h1)
    cases f2 <;> simp [implUnmarshalLoop]
  | succ f1 ih =>
    intro f2 m rest h1 h2
    cases f2 with
    | zero =>
      cases List.eq_nil_of_length_eq_zero (Nat.le_zero.1 h2)
      simp [implUnmarshalLoop]
    | succ f2 =>
      rw [implUnmarshalLoop_succ, implUnmarshalLoop_succ]
      congr 1
      refine Res.bind_congr fun mr hr => ?_
      -- the model's "no progress" exit is never taken
      have := implRecord_length hr
      rw [if_pos this, if_pos this]
      exact ih _ _ _ (by omega) (by omega)

end Pulsar
