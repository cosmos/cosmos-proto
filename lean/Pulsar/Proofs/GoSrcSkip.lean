/-
  Pulsar.Proofs.GoSrcSkip — runtime.Skip as translated from the Go source (`Pulsar.Xf.runtime_Skip`, four fuel-recursive
  loop helpers) is the hand-written model `Pulsar.skip` on every input shorter than 2^62 bytes.
  The three inner loops (tag, skipped varint value, length) are the model's `skipReadVarint` started at the cursor
  (`go_varint_loop`, proved once for any accumulator); the outer loop is `skipLoop`.
  (Shape-dependent induction: see Pulsar/Proofs/GoSrcBase.lean.)
-/
import Pulsar.ExtractedFns
import Pulsar.Proofs.GoSrcBase
import Pulsar.Proofs.RuntimeSkip
namespace Pulsar
open Pulsar.Timepb

/-- a 7-bit group placed above an accumulator that fits below it: OR is addition, also after the 64-bit cut -/
theorem or_group_eq (acc x k : Nat) (hacc : acc < 2 ^ (7 * k)) (hk : k ≤ 9) :
    acc ||| ((x % 128 * 2 ^ (7 * k)) % 18446744073709551616) = (acc + x % 128 * 2 ^ (7 * k)) % 18446744073709551616 := by
  have e64 : (18446744073709551616 : Nat) = 2 ^ (64 - 7 * k) * 2 ^ (7 * k) := by
    rw [← Nat.pow_add, show 64 - 7 * k + 7 * k = 64 from by omega]
  have ht : (x % 128 * 2 ^ (7 * k)) % 18446744073709551616 = (x % 128 % 2 ^ (64 - 7 * k)) * 2 ^ (7 * k) := by
    rw [e64, Nat.mul_mod_mul_right]
  have hm : x % 128 % 2 ^ (64 - 7 * k) < 2 ^ (64 - 7 * k) := Nat.mod_lt _ (Nat.two_pow_pos _)
  have hlt : acc + (x % 128 % 2 ^ (64 - 7 * k)) * 2 ^ (7 * k) < 18446744073709551616 := by
    rw [e64]
    calc acc + (x % 128 % 2 ^ (64 - 7 * k)) * 2 ^ (7 * k)
        < 2 ^ (7 * k) + (x % 128 % 2 ^ (64 - 7 * k)) * 2 ^ (7 * k) := by omega
      _ = (x % 128 % 2 ^ (64 - 7 * k) + 1) * 2 ^ (7 * k) := by rw [Nat.add_mul]; omega
      _ ≤ 2 ^ (64 - 7 * k) * 2 ^ (7 * k) := Nat.mul_le_mul_right _ (by omega)
  have hacc64 : acc < 18446744073709551616 := by omega
  rw [Nat.add_mod, Nat.mod_eq_of_lt hacc64, ht, Nat.mod_eq_of_lt hlt,
    Nat.or_comm, Nat.mul_comm, ← Nat.two_pow_add_eq_or_of_lt hacc, Nat.add_comm]

/-- A Go varint-reading loop (`for shift := uint(0); ; shift += 7 { … }`) with any accumulator `σ`, given by what
    one turn does (`hover`, `heof`, `hstep`: the two early returns and the body) and by how its accumulator follows
    the model's (`habs`): started at cursor `i` it is the model's `skipReadVarint` on `d.drop i`. `k` counts the
    bytes already read, `abs acc` is the loop's accumulator when the model's is `acc`. -/
theorem go_varint_loop {σ ρ : Type} (L : Nat → Int → Nat → σ → Res ρ) (upd : σ → Nat → Nat → σ)
    (out : Int → Nat → σ → ρ) (abs : Nat → σ) (d : Bytes)
    (hover : ∀ f i sh a, 64 ≤ sh → L (f + 1) i sh a = .err .overflow)
    (heof : ∀ f (i : Nat) sh a, sh < 64 → d.length ≤ i → L (f + 1) i sh a = .err .eof)
    (hstep : ∀ f (i : Nat) sh a, sh < 64 → i < d.length →
      L (f + 1) i sh a = Go.getAt d i >>= fun b =>
        if b < 128 then pure (out ((i + 1 : Nat) : Int) sh (upd a b sh))
        else L f ((i + 1 : Nat) : Int) (sh + 7) (upd a b sh))
    (habs : ∀ acc b k, b < 256 → acc < 2 ^ (7 * k) → k ≤ 9 →
      upd (abs acc) b (7 * k) = abs ((acc + b % 128 * 2 ^ (7 * k)) % 18446744073709551616)) :
    ∀ (r i k acc : Nat), d.length - i = r → i ≤ d.length → k ≤ 9 → acc < 2 ^ (7 * k) →
    L (11 - k) i (7 * k) (abs acc) = skipReadVarint k acc (d.drop i) >>= fun x =>
      pure (out ((i + x.2.1 - k : Nat) : Int) (7 * (x.2.1 - 1)) (abs x.1)) := by
  intro r
  induction r with
  | zero =>
    intro i k acc hr hi hk hacc
    rw [show 11 - k = (10 - k) + 1 from by omega, heof _ _ _ _ (by omega) (by omega),
      List.drop_eq_nil_of_le (by omega), skipReadVarint]; rfl
  | succ r ih =>
    intro i k acc hr hi hk hacc
    have hlt : i < d.length := by omega
    have hb256 : d[i].toNat < 256 := d[i].toNat_lt
    rw [show 11 - k = (10 - k) + 1 from by omega, hstep _ _ _ _ (by omega) hlt, getAt_of_lt hlt, Res.bind_ok,
      habs acc _ k hb256 hacc hk, List.drop_eq_getElem_cons hlt, skipReadVarint, if_neg (show ¬ k ≥ 10 by omega)]
    dsimp only
    generalize d[i].toNat = b at hb256 ⊢
    by_cases hb : b < 128
    · simp only [hb, if_true, Res.bind_ok]
      rw [show i + (k + 1) - k = i + 1 from by omega, show k + 1 - 1 = k from by omega]
    · simp only [hb, if_false]
      by_cases hk9 : k + 1 ≥ 10
      · -- the tenth byte had its continuation bit set: both report an overflow
        rw [if_pos hk9, show 10 - k = 0 + 1 from by omega, hover _ _ _ _ (by omega)]; rfl
      · have hx : b % 128 < 128 := Nat.mod_lt _ (by decide)
        have hbound := varint_acc_bound hacc hx
        rw [if_neg hk9, varint_acc_mod hacc hx (by omega)]
        have := ih (i + 1) (k + 1) (acc + b % 128 * 2 ^ (7 * k)) (by omega) (by omega) (by omega) hbound
        rw [show 11 - (k + 1) = 10 - k from by omega, show 7 * (k + 1) = 7 * k + 7 from by omega] at this
        rw [this]
        refine Res.bind_congr fun x hX => ?_
        have hc := (skipReadVarint_ok hX).1
        rw [show i + 1 + x.2.1 - (k + 1) = i + x.2.1 - k from by omega]

theorem wrap64_succ {d : Bytes} (hd : d.length < 4611686018427387904) {i : Nat} (hi : i < d.length) :
    wrap64 ((i : Int) + 1) = ((i + 1 : Nat) : Int) := by
  rw [wrap64_id (by omega) (by omega)]; omega

theorem src_Skip_loop2 (d : Bytes) (hd : d.length < 4611686018427387904) (i : Nat) (hi : i ≤ d.length) :
    Xf.runtime_Skip_loop2 11 d (d.length : Int) (i : Int) 0 0 = skipReadVarint 0 0 (d.drop i) >>= fun x =>
      pure (Sum.inl (((i + x.2.1 : Nat) : Int), 7 * (x.2.1 - 1), x.1)) :=
  go_varint_loop (fun f i sh w => Xf.runtime_Skip_loop2 f d d.length i sh w)
    (fun w b sh => w ||| ((b &&& 127) * 2 ^ sh) % 18446744073709551616) (fun i sh w => Sum.inl (i, sh, w)) id d
    (fun f i sh a h => by simp [Xf.runtime_Skip_loop2, h])
    (fun f i sh a h1 h2 => by
      have : ¬ 64 ≤ sh := by omega
      have : (d.length : Int) ≤ (i : Int) := by omega
      simp [Xf.runtime_Skip_loop2, *])
    (fun f i sh a h1 h2 => by
      have : ¬ 64 ≤ sh := by omega
      have : ¬ (d.length : Int) ≤ (i : Int) := by omega
      simp only [Xf.runtime_Skip_loop2, ge_iff_le, decide_false, *, wrap64_succ hd h2, Bool.false_eq_true,
        if_false, Nat.mod_eq_of_lt (show sh + 7 < 18446744073709551616 by omega), decide_eq_true_eq])
    (fun acc b k hb hacc hk => by
      rw [Nat.and_two_pow_sub_one_eq_mod b 7]; exact or_group_eq acc b k hacc hk)
    _ i 0 0 rfl hi (by omega) (by simp)

theorem src_Skip_loop3 (d : Bytes) (hd : d.length < 4611686018427387904) (i : Nat) (hi : i ≤ d.length) :
    Xf.runtime_Skip_loop3 11 d (d.length : Int) (i : Int) 0 = skipReadVarint 0 0 (d.drop i) >>= fun x =>
      pure (Sum.inl (((i + x.2.1 : Nat) : Int), 7 * (x.2.1 - 1))) :=
  go_varint_loop (fun f i sh (_ : Unit) => Xf.runtime_Skip_loop3 f d d.length i sh)
    (fun _ _ _ => ()) (fun i sh _ => Sum.inl (i, sh)) (fun _ => ()) d
    (fun f i sh a h => by simp [Xf.runtime_Skip_loop3, h])
    (fun f i sh a h1 h2 => by
      have : ¬ 64 ≤ sh := by omega
      have : (d.length : Int) ≤ (i : Int) := by omega
      simp [Xf.runtime_Skip_loop3, *])
    (fun f i sh a h1 h2 => by
      have : ¬ 64 ≤ sh := by omega
      have : ¬ (d.length : Int) ≤ (i : Int) := by omega
      have hw2 : wrap64 (((i + 1 : Nat) : Int) - 1) = (i : Int) := by
        rw [wrap64_id (by omega) (by omega)]; omega
      simp only [Xf.runtime_Skip_loop3, ge_iff_le, decide_false, *, wrap64_succ hd h2, Bool.false_eq_true,
        if_false, Nat.mod_eq_of_lt (show sh + 7 < 18446744073709551616 by omega), Res.bind_assoc, Res.pure_eq,
        Res.bind_ok, decide_eq_true_eq])
    (fun _ _ _ _ _ _ => rfl)
    _ i 0 0 rfl hi (by omega) (by simp)

/-! signed bit operations on 64-bit patterns -/

theorem ofInt64_toInt64 (a : Nat) (ha : a < 18446744073709551616) :
    ((wrap64 (a : Int)) % 18446744073709551616).toNat = a := by
  rw [wrap64_eq]; omega

theorem wrap64_natCast_mod (n : Nat) : wrap64 (n : Int) = wrap64 ((n % 18446744073709551616 : Nat) : Int) := by
  simp only [wrap64_eq]; omega

theorem sbits_eq (op : Nat → Nat → Nat) (a b : Int) :
    Go.sbits 18446744073709551616 op a b =
      wrap64 (op (a % 18446744073709551616).toNat (b % 18446744073709551616).toNat : Nat) := by
  unfold Go.sbits; simp only [wrap64_eq]; split <;> omega

theorem sbits_toInt64 (op : Nat → Nat → Nat) (a b : Nat) (ha : a < 18446744073709551616) (hb : b < 18446744073709551616) :
    Go.sbits 18446744073709551616 op (wrap64 (a : Int)) (wrap64 (b : Int)) = wrap64 ((op a b % 18446744073709551616 : Nat) : Int) := by
  rw [sbits_eq, ofInt64_toInt64 a ha, ofInt64_toInt64 b hb, ← wrap64_natCast_mod]

theorem sbits_and_127 (b : Nat) (hb : b < 256) :
    Go.sbits 18446744073709551616 (fun x y => x &&& y) (b : Int) (127 : Int) = ((b % 128 : Nat) : Int) := by
  rw [sbits_eq, show ((b : Int) % 18446744073709551616).toNat = b from by omega,
    show ((127 : Int) % 18446744073709551616).toNat = 2 ^ 7 - 1 from by decide, Nat.and_two_pow_sub_one_eq_mod b 7,
    wrap64_id (by omega) (by omega)]

theorem length_step (acc b k : Nat) (hb : b < 256) (hacc : acc < 2 ^ (7 * k)) (hk : k ≤ 9) :
    Go.sbits 18446744073709551616 (fun x y => x ||| y) (wrap64 (acc : Int))
      (wrap64 ((Go.sbits 18446744073709551616 (fun x y => x &&& y) (b : Int) (127 : Int)) * 2 ^ (7 * k)))
    = wrap64 (((acc + b % 128 * 2 ^ (7 * k)) % 18446744073709551616 : Nat) : Int) := by
  rw [sbits_and_127 b hb]
  have hc : (((b % 128 : Nat) : Int) * 2 ^ (7 * k)) = ((b % 128 * 2 ^ (7 * k) : Nat) : Int) := by
    simp [Int.natCast_mul, Int.natCast_pow]
  rw [hc, wrap64_natCast_mod (b % 128 * 2 ^ (7 * k))]
  have hacc64 : acc < 18446744073709551616 := by
    have : (2 : Nat) ^ (7 * k) ≤ 2 ^ 63 := Nat.pow_le_pow_right (by decide) (by omega)
    have : (2 : Nat) ^ 63 < 18446744073709551616 := by decide
    omega
  rw [sbits_toInt64 _ acc _ hacc64 (Nat.mod_lt _ (by decide))]
  show wrap64 ((((acc ||| (b % 128 * 2 ^ (7 * k)) % 18446744073709551616) % 18446744073709551616 : Nat)) : Int) = _
  rw [or_group_eq acc b k hacc hk, Nat.mod_mod]

theorem src_Skip_loop4 (d : Bytes) (hd : d.length < 4611686018427387904) (i : Nat) (hi : i ≤ d.length) :
    Xf.runtime_Skip_loop4 11 d (d.length : Int) (i : Int) 0 0 = skipReadVarint 0 0 (d.drop i) >>= fun x =>
      pure (Sum.inl (((i + x.2.1 : Nat) : Int), wrap64 (x.1 : Int), 7 * (x.2.1 - 1))) :=
  go_varint_loop (fun f i sh len => Xf.runtime_Skip_loop4 f d d.length i len sh)
    (fun len b sh => Go.sbits 18446744073709551616 (fun x y => x ||| y) len
      (wrap64 ((Go.sbits 18446744073709551616 (fun x y => x &&& y) (b : Int) (127 : Int)) * 2 ^ sh)))
    (fun i sh len => Sum.inl (i, len, sh)) (fun acc => wrap64 (acc : Int)) d
    (fun f i sh a h => by simp [Xf.runtime_Skip_loop4, h])
    (fun f i sh a h1 h2 => by
      have : ¬ 64 ≤ sh := by omega
      have : (d.length : Int) ≤ (i : Int) := by omega
      simp [Xf.runtime_Skip_loop4, *])
    (fun f i sh a h1 h2 => by
      have : ¬ 64 ≤ sh := by omega
      have : ¬ (d.length : Int) ≤ (i : Int) := by omega
      simp only [Xf.runtime_Skip_loop4, ge_iff_le, decide_false, *, wrap64_succ hd h2, Bool.false_eq_true,
        if_false, Nat.mod_eq_of_lt (show sh + 7 < 18446744073709551616 by omega), decide_eq_true_eq])
    (fun acc b k hb hacc hk => length_step acc b k hb hacc hk)
    _ i 0 0 rfl hi (by omega) (by simp)

/-- the result of the translated outer loop as `runtime_Skip` returns it: a `return` inside the loop is the result,
    leaving the loop by its condition is "unexpected EOF" -/
def fin : Res (Sum (Int × Int) Int) → Res Int
  | .ok (.inr r) => .ok r
  | .ok (.inl _) => .err .eof
  | .err e => .err e
  | .panic => .panic

/-- the model's `Nat` result as Go's `int` -/
def natRes : Res Nat → Res Int
  | .ok n => .ok (n : Int)
  | .err e => .err e
  | .panic => .panic

theorem fin_bind {α : Type} (r : Res α) (g : α → Res (Sum (Int × Int) Int)) :
    fin (r >>= g) = match r with | .ok a => fin (g a) | .err e => .err e | .panic => .panic := by
  cases r <;> rfl

theorem fin_natRes_bind {α : Type} {r : Res α} {F : α → Res (Sum (Int × Int) Int)} {G : α → Res Nat}
    (h : ∀ a, r = .ok a → fin (F a) = natRes (G a)) : fin (r >>= F) = natRes (r >>= G) := by
  cases r with
  | ok a => exact h a rfl
  | err e => rfl
  | panic => rfl

theorem natRes_eq_ok {r : Res Nat} {n : Int} : natRes r = .ok n ↔ ∃ m : Nat, r = .ok m ∧ n = m := by
  cases r <;> simp [natRes, eq_comm]

theorem natRes_eq_err {r : Res Nat} {e : Err} : natRes r = .err e ↔ r = .err e := by
  cases r <;> simp [natRes]

theorem natRes_eq_panic {r : Res Nat} : natRes r = .panic ↔ r = .panic := by
  cases r <;> simp [natRes]

/-- What follows the `switch` in one turn of the outer loop, given the induction hypothesis for the next turn. `I`, `D`
    are the Go values of `iNdEx` and `depth` after the switch, `c2`, `depth2` the model's: `I` is `c2` unless that does
    not fit an `int`, and then `I` is negative (the `iNdEx < 0` test of the source). -/
theorem skip_tail (d : Bytes) (f : Nat)
    (ih : ∀ (i depth : Nat), d.length - i ≤ f → depth ≤ i →
      fin (Xf.runtime_Skip_loop1 (f + 1) d (d.length : Int) (depth : Int) (i : Int)) = natRes (skipLoop f (d.drop i) i depth))
    (I D : Int) (c2 depth2 : Nat) (hD : D = depth2)
    (hI : if c2 < 9223372036854775808 then I = c2 else I < 0) (hfuel : d.length - c2 ≤ f) (hdep : depth2 ≤ c2) :
    fin (if decide (I < 0) = true then Res.err Err.invalidLength
         else if decide (D = 0) = true then pure (Sum.inr I)
         else Xf.runtime_Skip_loop1 (f + 1) d (d.length : Int) D I)
      = natRes (if c2 ≥ 9223372036854775808 then Res.err Err.invalidLength
                else if depth2 = 0 then Res.ok c2 else skipLoop f (d.drop c2) c2 depth2) := by
  subst hD
  by_cases hc : c2 < 9223372036854775808
  · rw [if_pos hc] at hI; subst hI
    rw [if_neg (show ¬ decide ((c2 : Int) < 0) = true by simp), if_neg (show ¬ c2 ≥ 9223372036854775808 by omega)]
    by_cases hz : depth2 = 0
    · subst hz; rfl
    · rw [if_neg (show ¬ decide ((depth2 : Int) = 0) = true by simpa using hz), if_neg hz]; exact ih c2 depth2 hfuel hdep
  · rw [if_neg hc] at hI
    rw [if_pos (show decide (I < 0) = true by simpa using hI), if_pos (show c2 ≥ 9223372036854775808 by omega)]; rfl

theorem skip_tail_inside (d : Bytes) (hd : d.length < 4611686018427387904) (f : Nat)
    (ih : ∀ (i depth : Nat), d.length - i ≤ f → depth ≤ i →
      fin (Xf.runtime_Skip_loop1 (f + 1) d (d.length : Int) (depth : Int) (i : Int)) = natRes (skipLoop f (d.drop i) i depth))
    (D : Int) (c2 depth2 : Nat) (hD : D = depth2) (hle : c2 ≤ d.length) (hfuel : d.length - c2 ≤ f)
    (hdep : depth2 ≤ c2) :
    fin (if decide ((c2 : Int) < 0) = true then Res.err Err.invalidLength
         else if decide (D = 0) = true then pure (Sum.inr (c2 : Int))
         else Xf.runtime_Skip_loop1 (f + 1) d (d.length : Int) D c2)
      = natRes (if c2 ≥ 9223372036854775808 then Res.err Err.invalidLength
                else if depth2 = 0 then Res.ok c2 else skipLoop f (d.drop c2) c2 depth2) :=
  skip_tail d f ih _ D c2 depth2 hD (by rw [if_pos (by omega)]) hfuel hdep

/-- `skip_tail` after `iNdEx += e` from a cursor `j` inside the buffer: the sum may pass the end of the buffer and, for
    a huge length `e`, the range of `int`. -/
theorem skip_tail_add (d : Bytes) (hd : d.length < 4611686018427387904) (f : Nat)
    (ih : ∀ (i depth : Nat), d.length - i ≤ f → depth ≤ i →
      fin (Xf.runtime_Skip_loop1 (f + 1) d (d.length : Int) (depth : Int) (i : Int)) = natRes (skipLoop f (d.drop i) i depth))
    (j e depth : Nat) (E : Int) (hE : E = e) (hj : j ≤ d.length) (he : e < 9223372036854775808)
    (hfuel : d.length - j ≤ f) (hdep : depth ≤ j) :
    fin (if decide (wrap64 ((j : Int) + E) < 0) = true then Res.err Err.invalidLength
         else if decide ((depth : Int) = 0) = true then pure (Sum.inr (wrap64 ((j : Int) + E)))
         else Xf.runtime_Skip_loop1 (f + 1) d (d.length : Int) depth (wrap64 ((j : Int) + E)))
      = natRes (if j + e ≥ 9223372036854775808 then Res.err Err.invalidLength
                else if depth = 0 then Res.ok (j + e) else skipLoop f (d.drop (j + e)) (j + e) depth) := by
  subst hE
  refine skip_tail d f ih _ _ (j + e) depth rfl ?_ (by omega) (by omega)
  split
  · rw [wrap64_id (by omega) (by omega)]; omega
  · rw [wrap64_hi (by omega) (by omega)]; omega

theorem skipReadVarint_at {d : Bytes} {i v n : Nat} {r : Bytes} (h : skipReadVarint 0 0 (d.drop i) = .ok (v, n, r)) :
    0 < n ∧ i + n ≤ d.length ∧ r = d.drop (i + n) ∧ v < 18446744073709551616 := by
  obtain ⟨hn, hlen, hr, hv⟩ := skipReadVarint_ok h
  simp only [Nat.sub_zero, List.length_drop, List.drop_drop] at hlen hr
  exact ⟨hn, by omega, hr, hv⟩

theorem src_Skip_loop1 (d : Bytes) (hd : d.length < 4611686018427387904) :
    ∀ (f i depth : Nat), d.length - i ≤ f → depth ≤ i →
    fin (Xf.runtime_Skip_loop1 (f + 1) d (d.length : Int) (depth : Int) (i : Int))
      = natRes (skipLoop f (d.drop i) i depth) := by
  have hend : ∀ (f i depth : Nat), d.length ≤ i →
      fin (Xf.runtime_Skip_loop1 (f + 1) d (d.length : Int) (depth : Int) (i : Int))
        = natRes (skipLoop f (d.drop i) i depth) := by
    intro f i depth hge
    have h1 : ¬ ((i : Int) < (d.length : Int)) := by omega
    unfold Xf.runtime_Skip_loop1
    cases f <;> simp [h1, fin, natRes, skipLoop, List.drop_eq_nil_of_le hge]
  intro f
  induction f with
  | zero => intro i depth hf _; exact hend 0 i depth (by omega)
  | succ f ih =>
    intro i depth hf hdep
    by_cases hlt : i < d.length
    · have h1 : ((i : Int) < (d.length : Int)) := by omega
      have hne : d.drop i ≠ [] := fun h => by have := List.drop_eq_nil_iff.1 h; omega
      unfold Xf.runtime_Skip_loop1
      rw [skipLoop_succ, if_neg hne]
      simp only [h1, decide_true, if_true, src_Skip_loop2 d hd i (by omega)]
      rw [Res.bind_assoc]
      refine fin_natRes_bind fun ⟨wire, n, rest1⟩ hT => ?_
      rw [Res.pure_eq, Res.bind_ok]
      obtain ⟨hnpos, hj, rfl, -⟩ := skipReadVarint_at hT
      dsimp only
      rw [Nat.and_two_pow_sub_one_eq_mod wire 3, show (2 : Nat) ^ 3 = 8 from rfl,
        wrap64_id (x := ((wire % 8 : Nat) : Int)) (by omega) (by omega)]
      have hwlt : wire % 8 < 8 := Nat.mod_lt _ (by decide)
      generalize wire % 8 = w at hwlt ⊢
      have hfuel : d.length - (i + n) ≤ f := by omega
      have hdj : depth ≤ i + n := by omega
      -- The arms of the `switch` are taken one by one with `rw [if_neg …, if_pos …]`: `simp` over the whole switch is
      -- slow, and with `Res.pure_eq` / `Res.bind_ok` in its set it builds a term the kernel rejects (deep recursion).
      match w, hwlt with
      | 0, _ =>
        rw [if_pos (by decide), skipAfter_varint, src_Skip_loop3 d hd (i + n) hj, Res.bind_assoc, Res.bind_assoc]
        refine fin_natRes_bind fun ⟨v, m, r⟩ hV => ?_
        obtain ⟨_, hmle, rfl, -⟩ := skipReadVarint_at hV
        exact skip_tail_inside d hd f ih _ (i + n + m) depth rfl (by omega) (by omega) (by omega)
      | 1, _ =>
        rw [if_neg (by decide), if_pos (by decide), skipAfter_fixed64, List.drop_drop]
        exact skip_tail_add d hd f ih (i + n) 8 depth 8 rfl hj (by decide) hfuel hdj
      | 2, _ =>
        rw [if_neg (by decide), if_neg (by decide), if_pos (by decide), skipAfter_bytes, src_Skip_loop4 d hd (i + n) hj,
          Res.bind_assoc, Res.bind_assoc]
        refine fin_natRes_bind fun ⟨len, m, r⟩ hV => ?_
        obtain ⟨_, hmle, rfl, hlen64⟩ := skipReadVarint_at hV
        rw [Res.pure_eq, Res.bind_ok]
        dsimp only
        by_cases hneg : len ≥ 9223372036854775808
        · rw [if_pos (decide_eq_true (show wrap64 (len : Int) < 0 by rw [wrap64_hi (by omega) (by omega)]; omega)),
            if_pos hneg]; rfl
        · rw [wrap64_id (x := (len : Int)) (by omega) (by omega),
            if_neg (show ¬ decide ((len : Int) < 0) = true by simp), if_neg hneg, Res.pure_eq, List.drop_drop]
          exact skip_tail_add d hd f ih (i + n + m) len depth len rfl (by omega) (by omega) (by omega) (by omega)
      | 3, _ =>
        rw [if_neg (by decide), if_neg (by decide), if_neg (by decide), if_pos (by decide), skipAfter_startGroup]
        exact skip_tail_inside d hd f ih _ (i + n) (depth + 1) (by rw [wrap64_id (by omega) (by omega)]; omega)
          hj hfuel (by omega)
      | 4, _ =>
        rw [if_neg (by decide), if_neg (by decide), if_neg (by decide), if_neg (by decide), if_pos (by decide),
          skipAfter_endGroup]
        by_cases hz : depth = 0
        · subst hz; rfl
        · rw [if_neg (show ¬ decide ((depth : Int) = 0) = true by simpa using hz), if_neg hz]
          exact skip_tail_inside d hd f ih _ (i + n) (depth - 1) (by rw [wrap64_id (by omega) (by omega)]; omega)
            hj hfuel (by omega)
      | 5, _ =>
        rw [if_neg (by decide), if_neg (by decide), if_neg (by decide), if_neg (by decide), if_neg (by decide),
          if_pos (by decide), skipAfter_fixed32, List.drop_drop]
        exact skip_tail_add d hd f ih (i + n) 4 depth 4 rfl hj (by decide) hfuel hdj
      | w + 6, _ =>
        have hw : ∀ c : Int, c < 6 → ¬ decide (((w + 6 : Nat) : Int) = c) = true := fun c hc => by
          simp only [decide_eq_true_eq]; omega
        rw [if_neg (hw 0 (by decide)), if_neg (hw 1 (by decide)), if_neg (hw 2 (by decide)), if_neg (hw 3 (by decide)),
          if_neg (hw 4 (by decide)), if_neg (hw 5 (by decide)), skipAfter_illegal (by omega)]; rfl
    · exact hend _ i depth (by omega)

theorem src_Skip (d : Bytes) (hd : d.length < 4611686018427387904) :
    Xf.runtime_Skip d = natRes (skip d) := by
  have h := src_Skip_loop1 d hd d.length 0 0 (by omega) (by omega)
  simp only [List.drop_zero] at h
  unfold Xf.runtime_Skip skip
  rw [← h]
  show (Xf.runtime_Skip_loop1 (d.length + 1) d (d.length : Int) 0 0 >>= _) = _
  rw [show ((0 : Nat) : Int) = 0 from rfl]
  cases Xf.runtime_Skip_loop1 (d.length + 1) d (d.length : Int) 0 0 with
  | ok x => cases x with
    | inl st => obtain ⟨a, b⟩ := st; rfl
    | inr r => rfl
  | err e => rfl
  | panic => rfl

end Pulsar
