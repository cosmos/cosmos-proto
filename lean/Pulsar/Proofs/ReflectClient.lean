/-
  A *client* (C10) is a deterministic program that talks to a message only through the reflection interface:
  from the outputs it has seen so far it chooses the next operation, or stops. This is what a generic
  algorithm of protobuf-go (proto.Equal / Clone / Merge, the JSON and text codecs) is with respect to a
  `protoreflect.Message`. The simulation lemma `runClient_sim` is generic in the state and op types: the
  one-message and the two-message theorems of C10 are instances of it.
-/
import Pulsar.Proofs.ReflectUtf8
namespace Pulsar

/-- a deterministic client over ops `ω`: outputs seen so far ↦ next op, or `none` to stop -/
abbrev Client (ω : Type) := List Out → Option ω

/-- run `c` against the machine `step` from state `s`, having already seen `outs`; at most `fuel` ops.
    Result: final state and all outputs (the given ones first). -/
def runClient {σ ω : Type} (step : σ → ω → σ × Out) (c : Client ω) : Nat → σ → List Out → σ × List Out
  | 0, s, outs => (s, outs)
  | n+1, s, outs =>
    match c outs with
    | none => (s, outs)
    | some op => runClient step c n (step s op).1 (outs ++ [(step s op).2])

/-- every op the client chooses *along this run* satisfies `ok` (decidable; nothing is required of the
    client on output sequences it never sees) -/
def clientOKOn {σ ω : Type} (step : σ → ω → σ × Out) (ok : ω → Bool) (c : Client ω) : Nat → σ → List Out → Bool
  | 0, _, _ => true
  | n+1, s, outs =>
    match c outs with
    | none => true
    | some op => ok op && clientOKOn step ok c n (step s op).1 (outs ++ [(step s op).2])

theorem clientOKOn_of_forall {σ ω : Type} (step : σ → ω → σ × Out) (ok : ω → Bool) (c : Client ω)
    (h : ∀ outs op, c outs = some op → ok op = true) :
    ∀ (fuel : Nat) (s : σ) (outs : List Out), clientOKOn step ok c fuel s outs = true
  | 0, _, _ => rfl
  | n+1, s, outs => by
    unfold clientOKOn
    cases hc : c outs with
    | none => rfl
    | some op =>
      simp only [h outs op hc, Bool.true_and]
      exact clientOKOn_of_forall step ok c h n _ _

theorem OutsEq_snoc : ∀ {a b : List Out} {x y : Out}, OutsEq a b → OutEq x y → OutsEq (a ++ [x]) (b ++ [y])
  | [], [], _, _, _, h => ⟨h, trivial⟩
  | [], _ :: _, _, _, h, _ => by simp [OutsEq] at h
  | _ :: _, [], _, _, h, _ => by simp [OutsEq] at h
  | _ :: as, _ :: bs, _, _, h, hxy => ⟨h.1, OutsEq_snoc (a := as) (b := bs) h.2 hxy⟩

/-- `OutEq` is equality, so every client respects `OutsEq`; `runClient_sim` still takes that as the hypothesis `hresp`
    and never unfolds `OutEq` (why: the header of Properties/C10). -/
theorem OutsEq_eq : ∀ {a b : List Out}, OutsEq a b → a = b
  | [], [], _ => rfl
  | [], _ :: _, h => by simp [OutsEq] at h
  | _ :: _, [], h => by simp [OutsEq] at h
  | x :: as, y :: bs, h => by
    have h1 : x = y := h.1
    rw [h1, OutsEq_eq (a := as) (b := bs) h.2]

theorem runClient_sim {σ τ ω : Type} (stepI : σ → ω → σ × Out) (stepS : τ → ω → τ × Out) (R : σ → τ → Prop)
    (ok : ω → Bool)
    (hstep : ∀ s t op, R s t → ok op = true →
      OutEq (stepI s op).2 (stepS t op).2 ∧ R (stepI s op).1 (stepS t op).1)
    (c : Client ω) (hresp : ∀ l l', OutsEq l l' → c l = c l') :
    ∀ (fuel : Nat) (s : σ) (t : τ) (outs outs' : List Out), R s t → OutsEq outs outs' →
      clientOKOn stepI ok c fuel s outs = true →
      OutsEq (runClient stepI c fuel s outs).2 (runClient stepS c fuel t outs').2 ∧
      R (runClient stepI c fuel s outs).1 (runClient stepS c fuel t outs').1
  | 0, _, _, _, _, hR, ho, _ => ⟨ho, hR⟩
  | n+1, s, t, outs, outs', hR, ho, hok => by
    unfold runClient
    unfold clientOKOn at hok
    rw [← hresp outs outs' ho]
    cases hc : c outs with
    | none => exact ⟨ho, hR⟩
    | some op =>
      simp only [hc, Bool.and_eq_true] at hok
      obtain ⟨h1, h2⟩ := hstep s t op hR hok.1
      exact runClient_sim stepI stepS R ok hstep c hresp n _ _ _ _ h2 (OutsEq_snoc ho h1) hok.2

/-- the product machine: an op is tagged with the message it addresses (`false`: the first, `true`: the
    second) -/
def step2 {σ₁ σ₂ ω : Type} (st1 : σ₁ → ω → σ₁ × Out) (st2 : σ₂ → ω → σ₂ × Out) (s : σ₁ × σ₂) (o : Bool × ω) :
    (σ₁ × σ₂) × Out :=
  if o.1 then ((s.1, (st2 s.2 o.2).1), (st2 s.2 o.2).2) else (((st1 s.1 o.2).1, s.2), (st1 s.1 o.2).2)

def ok2 {ω : Type} (ok1 ok2 : ω → Bool) (o : Bool × ω) : Bool := if o.1 then ok2 o.2 else ok1 o.2

theorem step2_sim {σ₁ σ₂ τ₁ τ₂ ω : Type} {stI1 : σ₁ → ω → σ₁ × Out} {stI2 : σ₂ → ω → σ₂ × Out}
    {stS1 : τ₁ → ω → τ₁ × Out} {stS2 : τ₂ → ω → τ₂ × Out} {R1 : σ₁ → τ₁ → Prop} {R2 : σ₂ → τ₂ → Prop}
    {k1 k2 : ω → Bool}
    (h1 : ∀ s t op, R1 s t → k1 op = true → OutEq (stI1 s op).2 (stS1 t op).2 ∧ R1 (stI1 s op).1 (stS1 t op).1)
    (h2 : ∀ s t op, R2 s t → k2 op = true → OutEq (stI2 s op).2 (stS2 t op).2 ∧ R2 (stI2 s op).1 (stS2 t op).1) :
    ∀ (s : σ₁ × σ₂) (t : τ₁ × τ₂) (o : Bool × ω), (R1 s.1 t.1 ∧ R2 s.2 t.2) → ok2 k1 k2 o = true →
      OutEq (step2 stI1 stI2 s o).2 (step2 stS1 stS2 t o).2 ∧
      (R1 (step2 stI1 stI2 s o).1.1 (step2 stS1 stS2 t o).1.1 ∧
       R2 (step2 stI1 stI2 s o).1.2 (step2 stS1 stS2 t o).1.2) := by
  intro s t o hR hok
  obtain ⟨b, op⟩ := o
  cases b with
  | false =>
    simp only [ok2, Bool.false_eq_true, if_false] at hok
    obtain ⟨ho, hr⟩ := h1 s.1 t.1 op hR.1 hok
    simp only [step2, Bool.false_eq_true, if_false]
    exact ⟨ho, hr, hR.2⟩
  | true =>
    simp only [ok2, if_true] at hok
    obtain ⟨ho, hr⟩ := h2 s.2 t.2 op hR.2 hok
    simp only [step2, if_true]
    exact ⟨ho, hR.1, hr⟩

/-- the SPEC machine as the client drives it: the client's op with its value arguments abstracted -/
def SpecReflect.stepAbs (S : Schema) (n i : Nat) (a : Val) (op : Op) : Val × Out :=
  SpecReflect.step S i a (Op.abs S n i op)

/-- ops a client may issue on a state typed with fuel `n`: well-formed value arguments, valid UTF-8 -/
def Op.okU (S : Schema) (n i : Nat) (op : Op) : Bool := Op.ok S n i op && Op.utf8 S n i op

theorem ReflRel_stepAbs (S : Schema) (hS : S.WF = true) (n i : Nat) :
    ∀ s t op, ReflRel S n i s t → Op.okU S n i op = true →
      OutEq (Reflect.step S i s op).2 (SpecReflect.stepAbs S n i t op).2 ∧
      ReflRel S n i (Reflect.step S i s op).1 (SpecReflect.stepAbs S n i t op).1 := by
  intro s t op h hok
  simp only [Op.okU, Bool.and_eq_true] at hok
  exact ReflRel_step S hS n i s t op h hok

theorem ReflRel0_stepAbs (S : Schema) (n i : Nat) :
    ∀ s t op, ReflRel0 S n i s t → (Op.ok S n i op && !op.usesCodec) = true →
      OutEq (Reflect.step S i s op).2 (SpecReflect.stepAbs S n i t op).2 ∧
      ReflRel0 S n i (Reflect.step S i s op).1 (SpecReflect.stepAbs S n i t op).1 := by
  intro s t op h hok
  simp only [Bool.and_eq_true, Bool.not_eq_true'] at hok
  exact ReflRel0_step S n i s t op h hok

end Pulsar
