/-
  Which features run and which files come back (Pulsar/Gen.lean §1–§3): feature selection (`sortByName` is the
  insertion sort of Proofs/EncodeSort), the per-file decision, the reserved-name rewrite.
-/
import Pulsar.Gen
import Pulsar.Proofs.EncodeSort
namespace Pulsar.Gen

/-! ### feature selection -/

def nameLt (a b : String × Bool) : Bool := decide (a.1 < b.1)

theorem insertByName_eq (x : String × Bool) (l : List (String × Bool)) : insertByName x l = ins nameLt x l := by
  induction l with
  | nil => rfl
  | cons y ys ih => simp [insertByName, ins, ih, nameLt]

theorem sortByName_eq (l : List (String × Bool)) : sortByName l = isort nameLt l := by
  induction l with
  | nil => rfl
  | cons y ys ih => simp [sortByName, isort, ih, insertByName_eq]

theorem nameLt_trans (a b c : String × Bool) : nameLt a b = true → nameLt b c = true → nameLt a c = true := by
  simp only [nameLt, decide_eq_true_eq]
  exact String.lt_trans

theorem nameLt_asymm (a b : String × Bool) : nameLt a b = true → nameLt b a = true → False := by
  simp only [nameLt, decide_eq_true_eq]
  exact fun h => String.lt_asymm h

theorem nameLt_total (a b : String × Bool) (h : a.1 ≠ b.1) : nameLt a b = true ∨ nameLt b a = true := by
  simp only [nameLt, decide_eq_true_eq]
  by_cases hab : a.1 < b.1
  · exact Or.inl hab
  · by_cases hba : b.1 < a.1
    · exact Or.inr hba
    · exact absurd (String.le_antisymm (String.not_lt.1 hba) (String.not_lt.1 hab)) h

theorem sortByName_perm (l : List (String × Bool)) : (sortByName l).Perm l := by
  rw [sortByName_eq]; exact isort_perm nameLt l

theorem sortByName_sorted (l : List (String × Bool)) (hk : (featureNames l).Nodup) :
    (sortByName l).Pairwise (fun a b => a.1 < b.1) := by
  rw [sortByName_eq]
  have htot : l.Pairwise (fun a b => nameLt a b = true ∨ nameLt b a = true) := by
    rw [featureNames, List.Nodup, List.pairwise_map] at hk
    exact hk.imp (fun h => nameLt_total _ _ h)
  exact (isort_pairwise nameLt nameLt_trans l htot).imp (fun h => by simpa [nameLt] using h)

theorem sortByName_perm_eq {l₁ l₂ : List (String × Bool)} (hp : l₁.Perm l₂) (hk : (featureNames l₂).Nodup) :
    sortByName l₁ = sortByName l₂ := by
  rw [featureNames, List.Nodup, List.pairwise_map] at hk
  rw [sortByName_eq, sortByName_eq]
  exact isort_perm_eq nameLt nameLt_trans nameLt_asymm hp (hk.imp (fun h => nameLt_total _ _ h))

theorem nodup_featureNames_mapSet (m : List (String × Bool)) (k : String) (v : Bool) (h : (featureNames m).Nodup) :
    (featureNames (mapSet m k v)).Nodup := by
  simp only [featureNames, mapSet, List.map_cons]
  rw [List.nodup_cons]
  constructor
  · simp
  · exact List.Nodup.sublist (List.filter_sublist.map _) h

theorem collect_nodup (reg : List (String × Bool)) (hreg : (featureNames reg).Nodup)
    (names : List String) (all : Bool) (acc r : List (String × Bool)) (ha : (featureNames acc).Nodup)
    (h : collect reg names all acc = .ok r) : (featureNames r).Nodup := by
  fun_induction collect reg names all acc with
  | case1 all acc => cases h; cases all <;> assumption
  | case2 ns all acc ih => exact ih ha h
  | case3 n ns all acc hn hl => cases h
  | case4 n ns all acc hn g hl ih => exact ih (nodup_featureNames_mapSet _ _ _ ha) h

theorem findFeatures_ok {reg : List (String × Bool)} {names : List String}
    {o : List (String × Bool) → List (String × Bool)} {fs : List (String × Bool)}
    (h : findFeatures reg names o = .ok fs) : ∃ r, collect reg names false [] = .ok r ∧ fs = sortByName (o r) := by
  unfold findFeatures at h
  split at h
  · cases h
  · rename_i r hc
    injection h with h
    exact ⟨r, hc, h.symm⟩

theorem findFeatures_order_independent (reg : List (String × Bool)) (names : List String)
    (o₁ o₂ : List (String × Bool) → List (String × Bool))
    (h₁ : ∀ l, (o₁ l).Perm l) (h₂ : ∀ l, (o₂ l).Perm l) (hreg : (featureNames reg).Nodup) :
    findFeatures reg names o₁ = findFeatures reg names o₂ := by
  unfold findFeatures
  cases hc : collect reg names false [] with
  | error e => rfl
  | ok r =>
    have hk := collect_nodup reg hreg names false [] r (by simp [featureNames]) hc
    simp only
    rw [sortByName_perm_eq (h₁ r) hk, sortByName_perm_eq (h₂ r) hk]

theorem collect_unknown (reg : List (String × Bool)) (n : String) (post : List String)
    (hn : n ≠ "all") (hl : reg.lookup n = none) (pre : List String) (all : Bool) (acc : List (String × Bool)) :
    ∃ e, collect reg (pre ++ n :: post) all acc = .error e := by
  generalize hnames : pre ++ n :: post = names
  fun_induction collect reg names all acc generalizing pre with
  | case1 all acc => cases pre <;> cases hnames
  | case2 ns all acc ih =>
    cases pre with
    | nil => cases hnames; exact absurd rfl hn
    | cons p ps => cases hnames; exact ih ps rfl
  | case3 m ns all acc hm hl' => exact ⟨m, rfl⟩
  | case4 m ns all acc hm g hl' ih =>
    cases pre with
    | nil => cases hnames; rw [hl] at hl'; cases hl'
    | cons p ps => cases hnames; exact ih ps rfl

theorem collect_known (reg : List (String × Bool)) (names : List String) (all : Bool) (acc : List (String × Bool))
    (h : ∀ n ∈ names, n = "all" ∨ (reg.lookup n).isSome = true) :
    ∃ r, collect reg names all acc = .ok r ∧ (all = true ∨ "all" ∈ names → r = reg) := by
  fun_induction collect reg names all acc with
  | case1 all acc => exact ⟨_, rfl, fun ha => by simp [ha.resolve_right List.not_mem_nil]⟩
  | case2 ns all acc ih =>
    obtain ⟨r, hr, hall⟩ := ih (fun m hm => h m (List.mem_cons_of_mem _ hm))
    exact ⟨r, hr, fun _ => hall (Or.inl rfl)⟩
  | case3 n ns all acc hn hl => simpa [hn, hl] using h n
  | case4 n ns all acc hn g hl ih =>
    obtain ⟨r, hr, hall⟩ := ih (fun m hm => h m (List.mem_cons_of_mem _ hm))
    exact ⟨r, hr, fun ha => hall (ha.imp_right (fun hm => (List.mem_cons.1 hm).resolve_left (Ne.symm hn)))⟩

theorem findFeatures_all (reg : List (String × Bool)) (names : List String)
    (o : List (String × Bool) → List (String × Bool))
    (h : ∀ n ∈ names, n = "all" ∨ (reg.lookup n).isSome = true) (hall : "all" ∈ names) :
    findFeatures reg names o = .ok (sortByName (o reg)) := by
  obtain ⟨r, hr, hreg⟩ := collect_known reg names false [] h
  simp [findFeatures, hr, hreg (Or.inr hall)]

theorem mem_featureNames_mapSet {m : List (String × Bool)} {k n : String} {v : Bool} :
    k ∈ featureNames (mapSet m n v) ↔ k = n ∨ k ∈ featureNames m := by
  simp only [featureNames, mapSet, List.map_cons, List.mem_cons, List.mem_map, List.mem_filter, bne_iff_ne]
  constructor
  · rintro (h | ⟨e, ⟨he, _⟩, rfl⟩)
    · exact Or.inl h
    · exact Or.inr ⟨e, he, rfl⟩
  · rintro (h | ⟨e, he, rfl⟩)
    · exact Or.inl h
    · exact (Classical.em (e.1 = n)).imp id (fun hk => ⟨e, ⟨he, hk⟩, rfl⟩)

theorem collect_mem (reg : List (String × Bool)) (names : List String) (acc r : List (String × Bool))
    (hall : "all" ∉ names) (h : collect reg names false acc = .ok r) (k : String) :
    k ∈ featureNames r ↔ (k ∈ names ∨ k ∈ featureNames acc) := by
  generalize hb : false = all at h
  fun_induction collect reg names all acc with
  | case1 all acc => subst hb; cases h; simp
  | case2 ns all acc ih => exact absurd List.mem_cons_self hall
  | case3 n ns all acc hn hl => cases h
  | case4 n ns all acc hn g hl ih =>
    rw [ih (fun e => hall (List.mem_cons_of_mem _ e)) hb h, mem_featureNames_mapSet, List.mem_cons, or_left_comm, or_assoc]

/-! ### per-file decision -/

theorem featureLoop_generated (path : String) :
    ∀ (fs : List (String × Bool)) (i : Nat) (seen : List (String × Nat)),
      (featureLoop path i fs seen).1 = fs.any (·.2) := by
  intro fs
  induction fs with
  | nil => intro i seen; rfl
  | cons f fs ih =>
    intro i seen
    obtain ⟨n, g⟩ := f
    cases g with
    | true => simp [featureLoop]
    | false => simp [featureLoop, ih]

theorem generateFile_emitted (feats : List (String × Bool)) (seen : List (String × Nat)) (lp : List String)
    (f : FileIn) : (generateFile feats seen lp f).1.emitted = (f.requested && f.proto3 && emits feats) := by
  unfold generateFile
  cases f.requested <;> cases f.proto3 <;> simp [emits, featureLoop_generated]

theorem generateFile_ran (feats : List (String × Bool)) (seen : List (String × Nat)) (lp : List String)
    (f : FileIn) : (generateFile feats seen lp f).1.ran =
      if f.requested && f.proto3 then featureNames feats else [] := by
  unfold generateFile
  cases f.requested <;> cases f.proto3 <;> simp

theorem generateAll_decisions (feats : List (String × Bool)) (lp : List String) :
    ∀ (files : List FileIn) (seen : List (String × Nat)),
      (generateAll feats lp seen files).map (fun o => (o.emitted, o.ran)) =
        files.map (fun f => (f.requested && f.proto3 && emits feats,
          if f.requested && f.proto3 then featureNames feats else []))
  | [], _ => rfl
  | f :: fs, seen => by
    simp [generateAll, generateFile_emitted, generateFile_ran, generateAll_decisions feats lp fs]

theorem generateAll_getElem? {feats : List (String × Bool)} {lp : List String} {files : List FileIn}
    {seen : List (String × Nat)} {i : Nat} {out : FileOut} (h : (generateAll feats lp seen files)[i]? = some out) :
    ∃ f, files[i]? = some f ∧ out.emitted = (f.requested && f.proto3 && emits feats) := by
  have := congrArg (·[i]?) (generateAll_decisions feats lp files seen)
  simp only [List.getElem?_map, h, Option.map_some] at this
  cases hf : files[i]? with
  | none => simp [hf] at this
  | some f =>
    simp only [hf, Option.map_some, Option.some.injEq, Prod.mk.injEq] at this
    exact ⟨f, rfl, this.1⟩

/-! ### reserved names -/

/-- re-checked whenever the extracted table changes -/
theorem reserved_no_underscore :
    Extracted.reservedFieldNames.all (fun b => b.toList.getLast? != some '_') = true := by decide +kernel

theorem rewriteName_not_reserved (n : String) : rewriteName n ∉ Extracted.reservedFieldNames := by
  unfold rewriteName
  split
  · intro hm
    have := List.all_eq_true.1 reserved_no_underscore _ hm
    simp [String.toList_append] at this
  · rename_i h
    exact fun hm => h (List.contains_iff_mem.2 hm)

theorem rewriteName_of_not_mem (m : String) (h : m ∉ Extracted.reservedFieldNames) : rewriteName m = m := by
  unfold rewriteName
  split
  · rename_i hc; exact absurd (List.contains_iff_mem.1 hc) h
  · rfl

end Pulsar.Gen
