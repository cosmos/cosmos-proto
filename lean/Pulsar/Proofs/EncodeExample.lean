/-
  Pulsar.Proofs.EncodeExample — a concrete schema and well-typed values, used by the non-vacuity
  examples of C01/C02/C04/C05: two message types; scalar kinds of every wire type, a packed list, an
  unpacked list, two maps (one with message values), a two-member oneof, a nested message, unknown bytes.
-/
import Pulsar.Typing
namespace Pulsar.Example
open Pulsar

def exS : Schema := ⟨[
  ⟨[ ⟨1, .scalar .int32, .singular⟩,
     ⟨2, .scalar .string, .singular⟩,
     ⟨3, .scalar .sint64, .repeated true⟩,
     ⟨4, .message 1, .map .string⟩,
     ⟨9, .scalar .bool, .oneof 0⟩,
     ⟨6, .message 1, .oneof 0⟩,
     ⟨7, .message 1, .singular⟩,
     ⟨8, .scalar .bytes, .repeated false⟩,
     ⟨5, .scalar .double, .singular⟩ ]⟩,
  ⟨[ ⟨1, .scalar .uint64, .singular⟩,
     ⟨2, .scalar .fixed32, .map .int32⟩,
     ⟨3, .scalar .sint32, .singular⟩ ]⟩ ]⟩

def exInner (a : Nat) : Val :=
  .msg [.bits a, .map true [.entry (.bits 4294967295) (.bits 7), .entry (.bits 3) (.bits 9)], .bits 4294967295] []

/-- a populated value of message 0 (depth 2). The map entries are stored out of key order. -/
def exV : Val :=
  .msg [ .bits 4294967290,
         .blob true [104, 105],
         .list true [.bits 3, .bits 18446744073709551615],
         .map true [.entry (.blob true [98]) (exInner 1), .entry (.blob true [97]) (exInner 300)],
         .none,
         .one (exInner 0),
         exInner 5,
         .list true [.blob true [1], .blob false []],
         .bits 9223372036854775808 ]
       [152, 6, 1]

/-- the same message held differently: nil-vs-empty flags flipped, map entries stored in another order. -/
def exW : Val :=
  .msg [ .bits 4294967290,
         .blob false [104, 105],
         .list false [.bits 3, .bits 18446744073709551615],
         .map false [.entry (.blob false [97]) (exInner 300), .entry (.blob true [98]) (exInner 1)],
         .none,
         .one (exInner 0),
         exInner 5,
         .list true [.blob false [1], .blob true []],
         .bits 9223372036854775808 ]
       [152, 6, 1]

theorem exS_wf : exS.WF = true := by decide
theorem exV_ok : msgOK exS false 2 0 exV = true := by decide
theorem exW_ok : msgOK exS false 2 0 exW = true := by decide

/-- the reference encoding of `exV` (the varint recursion is well-founded, hence `+kernel`) -/
theorem exV_enc : specEncode exS 2 0 exV =
[8, 250, 255, 255, 255, 255, 255, 255, 255, 255, 1, 18, 2, 104, 105, 26, 2, 6, 1, 34, 37, 10, 1, 97, 18, 32, 8, 172, 2,
 18, 16, 8, 255, 255, 255, 255, 255, 255, 255, 255, 255, 1, 21, 7, 0, 0, 0, 18, 7, 8, 3, 21, 9, 0, 0, 0, 24, 1, 34, 36,
 10, 1, 98, 18, 31, 8, 1, 18, 16, 8, 255, 255, 255, 255, 255, 255, 255, 255, 255, 1, 21, 7, 0, 0, 0, 18, 7, 8, 3, 21, 9,
 0, 0, 0, 24, 1, 41, 0, 0, 0, 0, 0, 0, 0, 128, 58, 31, 8, 5, 18, 16, 8, 255, 255, 255, 255, 255, 255, 255, 255, 255, 1,
 21, 7, 0, 0, 0, 18, 7, 8, 3, 21, 9, 0, 0, 0, 24, 1, 66, 1, 1, 66, 0, 50, 29, 18, 16, 8, 255, 255, 255, 255, 255, 255,
 255, 255, 255, 1, 21, 7, 0, 0, 0, 18, 7, 8, 3, 21, 9, 0, 0, 0, 24, 1, 152, 6, 1] := by decide +kernel

theorem exV_enc_length : (specEncode exS 2 0 exV).length < 18446744073709551616 := by
  rw [exV_enc]; decide +kernel

theorem exV_utf8 : utf8OK exS 2 0 exV = true := by decide +kernel

theorem exV_unknown : unknownOK exS 2 0 exV = true := by decide +kernel

end Pulsar.Example
