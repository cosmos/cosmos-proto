/-
  Pulsar.Proofs.Wrap — Go's wrapping `int64` / `int32` arithmetic (`wrap64`, `wrap32` of Pulsar/Basic.lean) in the
  form linear arithmetic can work with. The lemmas are named `Pulsar.Timepb.wrap…`; the source-level proofs about
  `runtime` and `generator` use them too (hence their `open Pulsar.Timepb`).
-/
import Pulsar.Basic
namespace Pulsar.Timepb

/-- `wrap64` without a case distinction. Every other fact about it is `rw [wrap64_eq]; omega`; unfolding the
    definition instead gives `omega` an `if` to split for each occurrence. -/
theorem wrap64_eq (x : Int) :
    wrap64 x = (x + 9223372036854775808) % 18446744073709551616 - 9223372036854775808 := by
  unfold wrap64; simp only; split <;> omega

theorem wrap32_eq (x : Int) : wrap32 x = (x + 2147483648) % 4294967296 - 2147483648 := by
  unfold wrap32; simp only; split <;> omega

theorem wrap32_id {x : Int} (h1 : -2147483648 ≤ x) (h2 : x ≤ 2147483647) : wrap32 x = x := by
  rw [wrap32_eq]; omega

theorem wrap64_id {x : Int} (h1 : -9223372036854775808 ≤ x) (h2 : x ≤ 9223372036854775807) :
    wrap64 x = x := by
  rw [wrap64_eq]; omega

theorem wrap64_hi {x : Int} (h1 : 9223372036854775808 ≤ x) (h2 : x < 27670116110564327424) :
    wrap64 x = x - 18446744073709551616 := by
  rw [wrap64_eq]; omega

theorem wrap64_lo {x : Int} (h1 : -27670116110564327424 ≤ x) (h2 : x < -9223372036854775808) :
    wrap64 x = x + 18446744073709551616 := by
  rw [wrap64_eq]; omega

theorem wrap64_lb (x : Int) : -9223372036854775808 ≤ wrap64 x := by rw [wrap64_eq]; omega
theorem wrap64_ub (x : Int) : wrap64 x ≤ 9223372036854775807 := by rw [wrap64_eq]; omega
theorem wrap32_lb (x : Int) : -2147483648 ≤ wrap32 x := by rw [wrap32_eq]; omega
theorem wrap32_ub (x : Int) : wrap32 x ≤ 2147483647 := by rw [wrap32_eq]; omega

/-- for `src_Add` (GoSrcTimepb), where a rewritten source may wrap an already wrapped sum again -/
theorem wrap64_idem (x : Int) : wrap64 (wrap64 x) = wrap64 x := wrap64_id (wrap64_lb x) (wrap64_ub x)
theorem wrap32_idem (x : Int) : wrap32 (wrap32 x) = wrap32 x := wrap32_id (wrap32_lb x) (wrap32_ub x)

theorem wrap64_wrap64_add (x c : Int) : wrap64 (wrap64 x + c) = wrap64 (x + c) := by
  simp only [wrap64_eq]; omega

end Pulsar.Timepb

namespace Pulsar

theorem ofInt32_lt (x : Int) : ofInt32 x < 4294967296 := by unfold ofInt32; omega

theorem ofInt64_lt (x : Int) : ofInt64 x < 18446744073709551616 := by unfold ofInt64; omega

end Pulsar
