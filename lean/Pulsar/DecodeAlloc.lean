/-
  Pulsar.DecodeAlloc — allocation accounting for the generated `unmarshal` closure.

  The functions below are the decoder of `Pulsar.Decode` once more, with the same control flow, but every
  result is a pair `(a, res)`: `res` is the outcome of `Pulsar.Decode` (`C06_alloc_value_agrees` proves it is the
  same value/error/panic) and `a` is the number of bytes the Go code has asked the allocator for up to that
  point — *also when the run ends in an error*, so the bound covers failing inputs and failing prefixes.

  Allocation sites of the template `features/fastreflection/proto_unmarshal.go` (line numbers of the tree
  at fix d595428) and what is charged:

  | site (template line)                                              | charge                                  |
  |-------------------------------------------------------------------|-----------------------------------------|
  | `make([]T, 0, elementCount)` packed pre-allocation (193–197)       | `elementCount * sizeof T`, only if the   |
  |   elementCount = packedLen/8 (178), /4 (180), #bytes<0x80 (182–188),|   slice is empty and `elementCount ≠ 0`; |
  |   packedLen for bool (190), none for enum (no case in the switch)  |   nothing for enum                      |
  | `x.F = append(x.F, v)` repeated scalar (240,254,269,…,588)         | `growFactor * sizeof T` per element       |
  | `string(dAtA[a:b])` (375,377,379,381; map key/value 676)           | `b - a`                                  |
  | `make([]byte, n)` (487,491; map value 711), `append(x.F[:0], …)`   | `n`                                      |
  |   (494)                                                            |                                          |
  | `append(x.F, string/[]byte)` header of a repeated blob (377,491)   | `growFactor * 16` / `growFactor * 24`     |
  | `&T{}` repeated element (460), singular if nil (466–468), oneof    | `msgCost` each; `growFactor * ptrSize`    |
  |   member if not already active (404–408), map value lazily (692–   |   for the appended pointer               |
  |   694) and for an entry without value record (454–456)             |                                          |
  | `options.Unmarshal(…)` of a nested message (629): protobuf-go asks  | `callCost` per nested call               |
  |   the message for `ProtoMethods()`, which allocates its result     |                                          |
  |   (`proto_message.go` 300–306)                                     |                                          |
  | `&T_Member{v}` oneof wrapper (237,251,265,…,410,489,586)           | `boxCost`                                |
  | `make(map[K]V)` if nil (417–419)                                   | `mapHdrCost`                             |
  | `x.F[mapkey] = mapvalue` (458), only for a key not yet present     | `mapEntryCost`                           |
  | `append(x.unknownFields, dAtA[iNdEx:iNdEx+skippy]...)` (97–99)     | `growFactor * skippy` unless Discard      |

  `append` is charged amortised: `growFactor = 2` times the bytes appended is the capacity of the final
  backing array under Go's growth policy (doubling below 256 elements, ×1.25+192 above); the garbage of
  the superseded backing arrays is a further constant factor (geometric series) and is not counted, nor is
  a one-off copy of what a non-empty target held before the call (that is proportional to the target, not
  to the input). The packed pre-allocation and the appends of the same run are both charged (upper bound).
  `msgCost`, `boxCost`, `mapHdrCost`, `mapEntryCost` are per-allocation constants (for a byte-exact
  reading scale them by the largest `sizeof(T)` of the schema; the proofs only use that they are constants).
  `mapEntryCost` is a whole 8-slot bucket of the Go 1.2x map (8 + 8·16 + 8·16 + 8), which bounds both the
  first insert and the amortised cost per entry of a growing map.
  Singular numeric fields are stored in place (proto3 subset of the model: no `&v` boxes).
-/
import Pulsar.Decode
namespace Pulsar

namespace Alloc
/-- amortised capacity factor of `append` -/
def growFactor : Nat := 2
/-- a pointer in a `[]*T` -/
def ptrSize : Nat := 8
/-- one `&T{}` -/
def msgCost : Nat := 64
/-- dispatching one nested `options.Unmarshal`: `ProtoMethods()` returns a fresh `&protoiface.Methods{…}`
    (flags + five function pointers) at every call -/
def callCost : Nat := 48
/-- one oneof wrapper `&T_Member{v}` -/
def boxCost : Nat := 32
/-- `make(map[K]V)`: the `hmap` header -/
def mapHdrCost : Nat := 48
/-- inserting a new key: one bucket -/
def mapEntryCost : Nat := 272
/-- the slope of the linear bound: bytes allocated per input byte. It is attained by the two-byte map record
    `tag 00` (header + bucket + empty message value: `(48 + 272 + 64) / 2`). -/
def K : Nat := 192
/-- the offset of the linear bound: nothing is allocated for the empty input -/
def K0 : Nat := 0
end Alloc
open Alloc

/-- `sizeof` of the Go element type of a repeated field of kind `k` (string / slice headers for blobs). -/
def Kind.goSize : Kind → Nat
  | .int32 | .uint32 | .sint32 | .enum | .fixed32 | .sfixed32 | .float => 4
  | .int64 | .uint64 | .sint64 | .fixed64 | .sfixed64 | .double => 8
  | .bool => 1
  | .string => 16
  | .bytes => 24

/-- bytes copied out of the input for a decoded scalar: `string(dAtA[a:b])`, `make([]byte, n)`. -/
def Val.blobLen : Val → Nat
  | .blob _ b => b.length
  | _ => 0

/-- what is left of the input after a successful read (`0` for an error or panic) -/
def Res.remLen {α : Type} : Res (α × Bytes) → Nat
  | .ok (_, r) => r.length
  | _ => 0

/-- `x.F = append(x.F, v)` for one decoded element `v` of kind `k`. -/
def appendCost (k : Kind) (v : Val) : Nat := growFactor * k.goSize + v.blobLen

/-- `elementCount` of a packed run with payload `dAtA[iNdEx:postIndex]` (template lines 175–191). -/
def packedElementCount (k : Kind) (payload : Bytes) : Nat :=
  match k with
  | .double | .fixed64 | .sfixed64 => payload.length / 8
  | .float | .fixed32 | .sfixed32 => payload.length / 4
  | .int64 | .uint64 | .int32 | .uint32 | .sint32 | .sint64 => payload.countP (fun b => b < 128)
  | .bool => payload.length
  | _ => 0      -- enum (and string/bytes, which never reach the packed branch): no case, `elementCount` stays 0

/-- `if elementCount != 0 && len(x.F) == 0 { x.F = make([]T, 0, elementCount) }` -/
def packedPrealloc (k : Kind) (payload : Bytes) (curLen : Nat) : Nat :=
  if packedElementCount k payload ≠ 0 ∧ curLen = 0 then packedElementCount k payload * k.goSize else 0

/-- `implPackedLoop` with the appends accounted in `a`. -/
def implPackedLoopAlloc (k : Kind) :
    (fuel : Nat) → (rest : Bytes) → (rem : Nat) → (acc : List Val) → (a : Nat) → Nat × Res (List Val × Bytes)
  | 0, rest, _, acc, a => (a, .ok (acc, rest))
  | fuel+1, rest, rem, acc, a =>
    if rem = 0 then (a, .ok (acc, rest))
    else match implReadScalar k rest with
      | .ok (v, r) =>
        implPackedLoopAlloc k fuel r (rem - (rest.length - r.length)) (acc ++ [v]) (a + appendCost k v)
      | .err e => (a, .err e)
      | .panic => (a, .panic)

/-- `implReadMapField`: a message value is allocated on first occurrence; string/bytes are copied. -/
def implReadMapFieldAlloc (childDec : Nat → Val → Bytes → Nat × Res Val) (S : Schema) (e : Elem) (old : Val)
    (rest : Bytes) : Nat × Res (Val × Bytes) :=
  match e with
  | .message i =>
    (match readLenDelim rest with
     | .ok (p, r) =>
       let into := if old.isNone then emptyMsg S i else old
       let c := childDec i into p
       ((if old.isNone then msgCost else 0) + callCost + c.1,
        match c.2 with
        | .ok v => .ok (v, r) | .err e => .err e | .panic => .panic)
     | .err e => (0, .err e) | .panic => (0, .panic))
  | .scalar k =>
    match implReadScalar k rest with
    | .ok (v, r) => (v.blobLen, .ok (v, r))
    | .err e => (0, .err e)
    | .panic => (0, .panic)

/-- `implEntryLoop` with the allocations of the key/value reads accounted in `a`. -/
def implEntryLoopAlloc (childDec : Nat → Val → Bytes → Nat × Res Val) (S : Schema) (kk : Kind) (e : Elem) :
    (fuel : Nat) → (rest : Bytes) → (rem : Nat) → (k v : Val) → (a : Nat) → Nat × Res (Val × Val)
  | 0, _, _, k, v, a => (a, .ok (k, v))
  | fuel+1, rest, rem, k, v, a =>
    if rem = 0 then (a, .ok (k, v))
    else match readVarint rest with
      | .err e => (a, .err e)
      | .panic => (a, .panic)
      | .ok (wire, r) =>
        let fieldNum := (wire / 8) % 4294967296
        if fieldNum = 1 then
          let c := implReadMapFieldAlloc childDec S (.scalar kk) k r
          match c.2 with
          | .ok (k', r') =>
            implEntryLoopAlloc childDec S kk e fuel r' (rem - (rest.length - r'.length)) k' v (a + c.1)
          | .err e => (a + c.1, .err e) | .panic => (a + c.1, .panic)
        else if fieldNum = 2 then
          let c := implReadMapFieldAlloc childDec S e v r
          match c.2 with
          | .ok (v', r') =>
            implEntryLoopAlloc childDec S kk e fuel r' (rem - (rest.length - r'.length)) k v' (a + c.1)
          | .err e => (a + c.1, .err e) | .panic => (a + c.1, .panic)
        else
          match skip rest with
          | .ok n =>
            if n > rem then (a, .err .eof)
            else implEntryLoopAlloc childDec S kk e fuel (rest.drop n) (rem - n) k v a
          | .err e => (a, .err e) | .panic => (a, .panic)

/-- `implKnownField`: the allocations of one known-field record. -/
def implKnownFieldAlloc (S : Schema) (fs : List FieldDesc) (childDec : Nat → Val → Bytes → Nat × Res Val)
    (j : Nat) (f : FieldDesc) (wt : Nat) (m : Val) (rest : Bytes) : Nat × Res (Val × Bytes) :=
  let cur := m.slot j
  match f.shape, f.elem with
  | .repeated _, .scalar k =>
    if Extracted.wireType k != 2 then
      if wt = Extracted.wireType k then
        match implReadScalar k rest with
        | .ok (v, r) => (appendCost k v, .ok (m.setSlot j (.list true (cur.elems ++ [v])), r))
        | .err e => (0, .err e) | .panic => (0, .panic)
      else if wt = 2 then
        match readVarint rest with
        | .ok (n, r) =>
          if n ≥ 9223372036854775808 then (0, .err .invalidLength)
          else if n > r.length then (0, .err .eof)
          else
            let c := implPackedLoopAlloc k n r n [] (packedPrealloc k (r.take n) cur.elems.length)
            match c.2 with
            | .ok (vs, r') =>
              let nonNil := match cur with | .list nn _ => nn || !vs.isEmpty | _ => !vs.isEmpty
              (c.1, .ok (m.setSlot j (.list nonNil (cur.elems ++ vs)), r'))
            | .err e => (c.1, .err e) | .panic => (c.1, .panic)
        | .err e => (0, .err e) | .panic => (0, .panic)
      else (0, .err .wrongWireType)
    else
      if wt != 2 then (0, .err .wrongWireType)
      else match implReadScalar k rest with
        | .ok (v, r) => (appendCost k v, .ok (m.setSlot j (.list true (cur.elems ++ [v])), r))
        | .err e => (0, .err e) | .panic => (0, .panic)
  | .repeated _, .message i =>
    if wt != 2 then (0, .err .wrongWireType)
    else match readLenDelim rest with
      | .ok (p, r) =>
        -- `x.F = append(x.F, &T{})`, then `options.Unmarshal` into the new element
        let c := childDec i (emptyMsg S i) p
        (growFactor * ptrSize + msgCost + callCost + c.1,
         match c.2 with
         | .ok v => .ok (m.setSlot j (.list true (cur.elems ++ [v])), r)
         | .err e => .err e | .panic => .panic)
      | .err e => (0, .err e) | .panic => (0, .panic)
  | .singular, .scalar k =>
    if wt != Extracted.wireType k then (0, .err .wrongWireType)
    else match implReadScalar k rest with
      | .ok (v, r) => (v.blobLen, .ok (m.setSlot j v, r))
      | .err e => (0, .err e) | .panic => (0, .panic)
  | .singular, .message i =>
    if wt != 2 then (0, .err .wrongWireType)
    else match readLenDelim rest with
      | .ok (p, r) =>
        let into := if cur.isNone then emptyMsg S i else cur
        let c := childDec i into p
        ((if cur.isNone then msgCost else 0) + callCost + c.1,
         match c.2 with
         | .ok v => .ok (m.setSlot j v, r)
         | .err e => .err e | .panic => .panic)
      | .err e => (0, .err e) | .panic => (0, .panic)
  | .oneof g, .scalar k =>
    if wt != Extracted.wireType k then (0, .err .wrongWireType)
    else match implReadScalar k rest with
      | .ok (v, r) =>
        (boxCost + v.blobLen, .ok ((Val.msg (clearGroup fs g m.slots) m.unknown).setSlot j (.one v), r))
      | .err e => (0, .err e) | .panic => (0, .panic)
  | .oneof g, .message i =>
    if wt != 2 then (0, .err .wrongWireType)
    else match readLenDelim rest with
      | .ok (p, r) =>
        let into := match cur with | .one x => (if x.isNone then emptyMsg S i else x) | _ => emptyMsg S i
        let fresh := match cur with | .one x => (if x.isNone then msgCost else 0) | _ => msgCost
        let c := childDec i into p
        -- the wrapper `&T_Member{v}` is built after the nested decode succeeded
        (match c.2 with
         | .ok v => (fresh + callCost + c.1 + boxCost,
                     .ok ((Val.msg (clearGroup fs g m.slots) m.unknown).setSlot j (.one v), r))
         | .err e => (fresh + callCost + c.1, .err e) | .panic => (fresh + callCost + c.1, .panic))
      | .err e => (0, .err e) | .panic => (0, .panic)
  | .map kk, e =>
    if wt != 2 then (0, .err .wrongWireType)
    else match readVarint rest with
      | .ok (n, r) =>
        if n ≥ 9223372036854775808 then (0, .err .invalidLength)
        else if n > r.length then (0, .err .eof)
        else
          -- `if x.F == nil { x.F = make(map[K]V) }`
          let hdr := match cur with | .map true _ => 0 | _ => mapHdrCost
          -- the entry's records are decoded within the entry (`l := postIndex`, fix d595428)
          let c := implEntryLoopAlloc childDec S kk e n (r.take n) n (Elem.zeroVar (.scalar kk)) e.zeroVar hdr
          match c.2 with
          | .ok (k, v) =>
            let fresh := match e with | .message _ => (if v.isNone then msgCost else 0) | .scalar _ => 0
            let v := match e with | .message mi => (if v.isNone then emptyMsg S mi else v) | .scalar _ => v
            let ins := if cur.elems.any (fun en => kbeqOf kk en.key k) then 0 else mapEntryCost
            (c.1 + fresh + ins, .ok (m.setSlot j (.map true (mapPut (kbeqOf kk) cur.elems k v)), r.drop n))
          | .err e => (c.1, .err e) | .panic => (c.1, .panic)
      | .err e => (0, .err e) | .panic => (0, .panic)

/-- `implUnmarshalLoop` with the running allocation total `a`. -/
def implUnmarshalLoopAlloc (S : Schema) (i : Nat) (o : UOpts) (childDec : Nat → Val → Bytes → Nat × Res Val) :
    (fuel : Nat) → (m : Val) → (rest : Bytes) → (a : Nat) → Nat × Res Val
  | 0, m, _, a => (a, .ok m)
  | fuel+1, m, rest, a =>
    if rest = [] then (a, .ok m)
    else match readVarint rest with
      | .err e => (a, .err e)
      | .panic => (a, .panic)
      | .ok (wire, r) =>
        let fieldNum := (wire / 8) % 4294967296
        let wt := wire % 8
        if wt = 4 then (a, .err .endGroup)
        else if fieldNum = 0 ∨ fieldNum ≥ 2147483648 then (a, .err .illegalTag)
        else
          match findField (S.msg i).fields fieldNum with
          | some (j, f) =>
            let c := implKnownFieldAlloc S (S.msg i).fields childDec j f wt m r
            (match c.2 with
             | .ok (m', r') =>
               if r'.length < rest.length then implUnmarshalLoopAlloc S i o childDec fuel m' r' (a + c.1)
               else (a + c.1, .ok m')
             | .err e => (a + c.1, .err e) | .panic => (a + c.1, .panic))
          | none =>
            match skip rest with
            | .ok n =>
              if n > rest.length then (a, .err .eof)
              else match sliceTo rest n with
                | .ok raw =>
                  let m' := if o.discard then m else Val.msg m.slots (m.unknown ++ raw)
                  -- `x.unknownFields = append(x.unknownFields, dAtA[iNdEx:iNdEx+skippy]...)`
                  let a' := a + (if o.discard then 0 else growFactor * raw.length)
                  if n = 0 then (a', .ok m') else implUnmarshalLoopAlloc S i o childDec fuel m' (rest.drop n) a'
                | .err e => (a, .err e) | .panic => (a, .panic)
            | .err e => (a, .err e) | .panic => (a, .panic)

/-- `implUnmarshalClosure` with allocation accounting: `(bytes allocated, outcome)`. The target `into`
    itself was allocated by the caller (it is charged at the `&T{}` site of the parent). -/
def implUnmarshalAlloc (S : Schema) (o : UOpts) : Nat → Int → Nat → Val → Bytes → Nat × Res Val
  | 0, _, _, into, _ => (0, .ok into)
  | fuel+1, depth, i, into, bs =>
    if into.isNone then (0, .ok into)
    else if depth < 0 then (0, .err .depth)
    else implUnmarshalLoopAlloc S i o (implUnmarshalAlloc S o fuel (nestedLimit depth)) bs.length into bs 0

end Pulsar
