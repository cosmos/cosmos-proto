/-
  Root of the library. Not imported here, and built by name (README.md): `Pulsar.ExtractedFns`, `Pulsar.GoSem`, `Proofs/GoSrc*`,
  `Properties/*Src*`: they follow `ExtractedFns.lean`, which every check regenerates from the Go source.
-/
import Pulsar.Basic
import Pulsar.Wire
import Pulsar.Runtime
import Pulsar.Timepb
import Pulsar.Properties.C15
import Pulsar.Properties.C17
import Pulsar.Entry
import Pulsar.Typing
import Pulsar.Syntax
import Pulsar.Properties.C02
import Pulsar.Properties.C04
import Pulsar.Properties.C05
import Pulsar.Properties.C03
import Pulsar.Properties.C03Code
import Pulsar.Properties.C04Code
import Pulsar.Properties.C05Code
import Pulsar.Properties.C06
import Pulsar.Properties.C14
import Pulsar.Properties.C16
import Pulsar.Properties.C18
import Pulsar.Properties.C01
import Pulsar.Reflect
import Pulsar.ReflectSyntax
import Pulsar.Properties.C08
import Pulsar.Properties.C09
import Pulsar.Properties.C07
import Pulsar.Properties.C11
import Pulsar.Gen
import Pulsar.Properties.C12
import Pulsar.Properties.C13
import Pulsar.Properties.C19
import Pulsar.Properties.C19Getters
import Pulsar.Properties.C19Tables
import Pulsar.Properties.C10
import Pulsar.Properties.C06Alloc
import Pulsar.RapidSyntax
import Pulsar.Proofs.RapidBridge
import Pulsar.Properties.C18Draws
import Pulsar.ExtractedCode
import Pulsar.Properties.C07Code
import Pulsar.Properties.C11Code
